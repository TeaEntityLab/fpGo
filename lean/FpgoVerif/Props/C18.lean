import FpgoVerif.Proofs.C18
/-! Property theorems for C18 — "Interceptors run once each, in order, before the transport; an error
    aborts".  All statements are about the definitions the driver executes (`recursiveVisit`,
    `setHTTPClient`, `addInterceptor`, … of Model/C18.lean). -/
namespace FpgoVerif.C18

/-! ## the specification has the shape the property states -/

/-- **once each, in registration order.**  The interceptors invoked for a request form a prefix of the
    registered list (so every registered occurrence runs at most once, and in order). -/
theorem C18_spec_prefix (beh : Nat → Req → Req × Bool) (tf : Tr → Bool) (t : Tr) (is : List Nat) (req : Req) :
    icptIds (Spec.visit beh tf t is req).1 <+: is := by
  induction is generalizing req with
  | nil => exact ⟨[], rfl⟩
  | cons i rest ih =>
    cases hf : (beh i req).2
    · rw [visit_pass beh tf t rest hf]
      exact List.cons_prefix_cons.2 ⟨rfl, ih (beh i req).1⟩
    · rw [visit_fail beh tf t rest hf]
      exact ⟨rest, rfl⟩

/-- **no interceptor error: all run, then the transport sees the request exactly once, with every header
    change** — also when the transport itself then fails (`terr`), whatever kind of error it returns: one
    transport event, nothing re-run. -/
theorem C18_spec_ok (beh : Nat → Req → Req × Bool) (tf : Tr → Bool) (t : Tr) (is : List Nat) (req : Req)
    (h : (Spec.visit beh tf t is req).2 = .ok ∨ (Spec.visit beh tf t is req).2 = .terr) :
    icptIds (Spec.visit beh tf t is req).1 = is ∧
    transports (Spec.visit beh tf t is req).1 = [(t, thread beh req is)] ∧
    (Spec.visit beh tf t is req).1.getLast? = some (.transport t (thread beh req is)) := by
  induction is generalizing req with
  | nil => exact ⟨rfl, rfl, rfl⟩
  | cons i rest ih =>
    cases hf : (beh i req).2
    · rw [visit_pass beh tf t rest hf] at h ⊢
      obtain ⟨h1, h2, h3⟩ := ih (beh i req).1 h
      exact ⟨congrArg (i :: ·) h1, h2, getLast?_cons_of_some _ h3⟩
    · rw [visit_fail beh tf t rest hf] at h
      rcases h with h | h <;> cases h

/-- **an error aborts:** the failing interceptor is the last thing invoked — later interceptors and the
    transport are not — it saw the headers its predecessors left, every predecessor passed, and its
    error is the result. -/
theorem C18_spec_err (beh : Nat → Req → Req × Bool) (tf : Tr → Bool) (t : Tr) (is : List Nat) (req : Req) (i : Nat)
    (h : (Spec.visit beh tf t is req).2 = .err i) :
    transports (Spec.visit beh tf t is req).1 = [] ∧
    ∃ pre post, is = pre ++ i :: post ∧ icptIds (Spec.visit beh tf t is req).1 = pre ++ [i] ∧
      (beh i (thread beh req pre)).2 = true ∧
      (Spec.visit beh tf t is req).1.getLast? = some (.icpt i (thread beh req pre)) := by
  induction is generalizing req with
  | nil => cases htf : tf t <;> simp [Spec.visit, htf] at h
  | cons j rest ih =>
    cases hf : (beh j req).2
    · rw [visit_pass beh tf t rest hf] at h ⊢
      obtain ⟨h1, pre, post, h2, h3, h4, h5⟩ := ih (beh j req).1 h
      exact ⟨h1, j :: pre, post, congrArg (j :: ·) h2, congrArg (j :: ·) h3, h4, getLast?_cons_of_some _ h5⟩
    · rw [visit_fail beh tf t rest hf] at h ⊢
      cases h
      exact ⟨rfl, [], rest, rfl, rfl, hf, rfl⟩

/-- the result of a request is success, the transport's own failure, or the error of a registered
    interceptor — never a panic/crash -/
theorem C18_spec_total (beh : Nat → Req → Req × Bool) (tf : Tr → Bool) (t : Tr) (is : List Nat) (req : Req) :
    (Spec.visit beh tf t is req).2 = .ok ∨ (Spec.visit beh tf t is req).2 = .terr ∨
      ∃ i ∈ is, (Spec.visit beh tf t is req).2 = .err i := by
  induction is generalizing req with
  | nil => cases h : tf t <;> simp [Spec.visit, h]
  | cons j rest ih =>
    cases hf : (beh j req).2
    · rw [visit_pass beh tf t rest hf]
      exact (ih (beh j req).1).imp_right (.imp_right fun ⟨i, hi, h⟩ => ⟨i, .tail _ hi, h⟩)
    · rw [visit_fail beh tf t rest hf]
      exact .inr (.inr ⟨j, .head _, rfl⟩)

/-! ## the code's index-walking `recursiveVisit` is that specification -/

/-- **visit clause.**  Whenever the wrapped transport is not the SimpleHTTP itself, `RoundTrip`
    (= `recursiveVisit request 0`, any sufficient fuel) produces exactly the prescribed call log and result,
    for every interceptor list, behaviour and request. -/
theorem C18_visit (beh : Nat → Req → Req × Bool) (tf : Tr → Bool) (s : SH) (t : Tr) (ht : s.clientTransport = some t)
    (hne : t ≠ .self) (fuel : Nat) (hfuel : s.interceptors.length + 1 ≤ fuel) (req : Req) :
    recursiveVisit beh tf s fuel req 0 = Spec.visit beh tf t s.interceptors req :=
  visit_eq beh tf s t ht hne fuel req 0 (Nat.zero_le _) hfuel

/-- non-vacuity + a concrete instance: interceptors 3,5,3 with 5 failing -/
example : recursiveVisit (behOf [5]) (fun _ => false) ⟨[3, 5, 3], 0, some (.stub 1), some .self⟩ 10 [] 0 =
    ([.icpt 3 [], .icpt 5 [3]], .err 5) := by decide +kernel

/-- a wrapped transport that IS the SimpleHTTP (what a double wrap would produce) runs the chain again and
    again — the model's `crash` (Go: fatal stack overflow) -/
theorem C18_self_transport_recurses :
    (recursiveVisit (behOf []) (fun _ => false) ⟨[1], 0, some .self, some .self⟩ 8 [] 0) =
      ([.icpt 1 [], .icpt 1 [1], .icpt 1 [1, 1], .icpt 1 [1, 1, 1]], .crash) := by decide +kernel

/-! ## bookkeeping -/

/-- **bookkeeping clause.**  After any history of `AddInterceptor` / `RemoveInterceptor` /
    `ClearInterceptor` (any argument lists, duplicates allowed) the registered list is: appended in order;
    every occurrence of every named pointer removed, the others untouched and in order; empty. -/
theorem C18_book (s : SH) (ops : List Op) :
    (ops.foldl applyOp s).interceptors = Spec.book s.interceptors ops := by
  induction ops generalizing s with
  | nil => rfl
  | cons op ops ih =>
    rw [List.foldl_cons, ih, applyOp_interceptors, ← book_cons]

/-- bookkeeping touches nothing but the list -/
theorem C18_book_frame (s : SH) (ops : List Op) :
    (ops.foldl applyOp s).client = s.client ∧ (ops.foldl applyOp s).clientTransport = s.clientTransport ∧
    (ops.foldl applyOp s).lastTransport = s.lastTransport := by
  induction ops generalizing s with
  | nil => exact ⟨rfl, rfl, rfl⟩
  | cons op ops ih =>
    obtain ⟨h1, h2, h3⟩ := applyOp_frame s op
    rw [List.foldl_cons, ← h1, ← h2, ← h3]
    exact ih _

example : (([Op.add [1, 2, 1], .rem [1], .add [3, 3]].foldl applyOp ⟨[0], 0, none, none⟩).interceptors) = [0, 2, 3, 3] := by
  decide +kernel

/-! ## bookkeeping never writes into existing storage -/

/-- **"affect exactly the named interceptors", at the level of Go slices.**  Whatever slice the instance currently
    holds — in particular the CALLER's own slice handed to `NewSimpleHTTPWithClientAndInterceptors(client, defaults...)`, with
    or without spare capacity — any history of Add/Remove/Clear (i) leaves every backing array that existed before with
    exactly its content, so the caller's slice and every other instance built from it read as before, and (ii) makes
    the instance's list the one `Spec.book` prescribes. -/
theorem C18_storage (st : Store) (sl : Sl) (ops : List Op) :
    (∀ other : Sl, other.arr < st.length → readS (ops.foldl applyOpS (st, sl)).1 other = readS st other) ∧
    readS (ops.foldl applyOpS (st, sl)).1 (ops.foldl applyOpS (st, sl)).2 = Spec.book (readS st sl) ops := by
  obtain ⟨g, r⟩ := foldS_spec applyOpS (fun l op => Spec.book l [op]) applyOpS_spec ops (st, sl)
  exact ⟨fun other ho => g.read other ho, by rw [r, book_eq_foldl]⟩

/-- non-vacuity / the seeded defect on the model: the caller's slice `[1, 2]` with two spare slots, Clear then Add 3 —
    the current mechanism leaves the caller's array alone; a `[:0]`-truncating Clear followed by the built-in `append`
    would write 3 over the caller's 1 -/
example :
    let st : Store := [[1, 2, 0, 0]]
    let r := [Op.clear, .add [3]].foldl applyOpS (st, ⟨0, 2⟩)
    readS r.1 ⟨0, 2⟩ = [1, 2] ∧ readS r.1 r.2 = [3] ∧
    -- in-place variant: same slice header with len 0, then write at index 0 of the SAME array
    (([[1, 2, 0, 0]] : Store).map (fun a => a.set 0 3))[0]? = some [3, 2, 0, 0] := by decide +kernel

/-! ## SetHTTPClient: never wrapped twice, never recursive -/

/-- the invariant: the current client's transport is the SimpleHTTP, the wrapped transport is not -/
structure Inv (s : SH) (cs : Clients) : Prop where
  client : cs[s.client]? = some (some Tr.self)
  last : s.lastTransport = some .self
  wrapped : ∃ t, s.clientTransport = some t ∧ t ≠ .self

/-- **SetHTTPClient never wraps twice.**  One `SetHTTPClient(c)` with ANY client of the pool — from a state in which the
    SimpleHTTP is already installed somewhere (`lastTransport = self`, wrapped transport ≠ self), or from the fresh state of
    the constructor (no client refers to the SimpleHTTP yet) — establishes the invariant: the current client's transport is
    the SimpleHTTP, the wrapped transport is not; the interceptor list and the pool size are untouched. -/
theorem C18_setHTTPClient_inv (s : SH) (cs : Clients) (c : Nat) (hc : c < cs.length)
    (h : s.lastTransport = some .self ∧ (∃ t, s.clientTransport = some t ∧ t ≠ .self) ∨
         s.lastTransport = none ∧ ∀ k : Nat, cs[k]? ≠ some (some Tr.self)) :
    Inv (setHTTPClient s cs c).1 (setHTTPClient s cs c).2 ∧
    (setHTTPClient s cs c).1.interceptors = s.interceptors ∧ (setHTTPClient s cs c).2.length = cs.length := by
  unfold setHTTPClient
  -- the transport read off client `c` is the SimpleHTTP only if that client already refers to it
  have hself : ((cs[c]?).getD none).getD Tr.dflt = .self → cs[c]? = some (some .self) := by
    rcases cs[c]? with _ | _ | t
    · nofun
    · nofun
    · exact fun e => congrArg (some ∘ some) e
  by_cases hne : some (((cs[c]?).getD none).getD Tr.dflt) ≠ s.lastTransport
  · rw [if_pos hne]
    refine ⟨⟨by simp [hc], rfl, _, rfl, fun e => ?_⟩, rfl, by simp⟩
    rcases h with ⟨h1, _⟩ | ⟨_, h2⟩
    · exact hne (by rw [e, h1])
    · exact h2 c (hself e)
  · rw [if_neg hne]
    have heq := Classical.not_not.1 hne
    rcases h with ⟨h1, h2⟩ | ⟨h1, _⟩
    · refine ⟨⟨?_, h1, h2⟩, rfl, by simp⟩
      show (cs.set c (some (((cs[c]?).getD none).getD Tr.dflt)))[c]? = some (some Tr.self)
      rw [Option.some.inj (heq.trans h1)]; simp [hc]
    · cases heq.trans h1

/-- `SetHTTPClient(c)` touches no client but `c` (so instances that own distinct clients — as every instance made by
    `NewSimpleHTTP()` / `NewSimpleAPI(url)` does, each with its fresh `&http.Client{}` — cannot chain into each other:
    the invariant of one instance only mentions its own client) -/
theorem C18_client_frame (s : SH) (cs : Clients) (c k : Nat) (hk : c ≠ k) :
    (setHTTPClient s cs c).2[k]? = cs[k]? := by
  simp only [setHTTPClient]
  -- wrapping or not, only cell `c` of the pool is written
  split <;> simp [List.getElem?_set_ne hk]

/-- … and the invariant of an instance survives anything done to OTHER clients (another instance's constructor or
    `SetHTTPClient`, a fresh client being allocated) -/
theorem C18_inv_other_clients (s : SH) (cs cs' : Clients) (h : Inv s cs) (hsame : cs'[s.client]? = cs[s.client]?) :
    Inv s cs' := ⟨by rw [hsame]; exact h.client, h.last, h.wrapped⟩

/-- a history: bookkeeping operations and `SetHTTPClient` calls in any order -/
inductive HOp
  | book (op : Op)
  | set (c : Nat)
  | retr (t : Option Tr)     -- c := GetHTTPClient(); c.Transport = t; SetHTTPClient(c)

def runH (st : SH × Clients) : List HOp → SH × Clients
  | [] => st
  | .book op :: h => runH (applyOp st.1 op, st.2) h
  | .set c :: h => runH (setHTTPClient st.1 st.2 c) h
  | .retr t :: h => runH (setHTTPClient st.1 (st.2.set st.1.client t) st.1.client) h

def bookOf : List HOp → List Op
  | [] => []
  | .book op :: h => op :: bookOf h
  | .set _ :: h => bookOf h
  | .retr _ :: h => bookOf h

def setsValid (n : Nat) : List HOp → Prop
  | [] => True
  | .book _ :: h => setsValid n h
  | .set c :: h => c < n ∧ setsValid n h
  | .retr t :: h => t ≠ some Tr.self ∧ setsValid n h

/-- the invariant is preserved by every history of bookkeeping operations and `SetHTTPClient` calls, and the registered
    list after the history is the one `Spec.book` prescribes (the induction behind `C18_client`) -/
theorem C18_runH_inv (st : SH × Clients) (h : List HOp) (hinv : Inv st.1 st.2) (hv : setsValid st.2.length h) :
    Inv (runH st h).1 (runH st h).2 ∧ (runH st h).1.interceptors = Spec.book st.1.interceptors (bookOf h) := by
  induction h generalizing st with
  | nil => exact ⟨hinv, rfl⟩
  | cons op h ih =>
    -- `SetHTTPClient` with any client of a pool of the same size re-establishes the invariant and keeps the list
    have hset : ∀ cs' c', c' < cs'.length → cs'.length = st.2.length → setsValid st.2.length h →
        Inv (runH (setHTTPClient st.1 cs' c') h).1 (runH (setHTTPClient st.1 cs' c') h).2 ∧
        (runH (setHTTPClient st.1 cs' c') h).1.interceptors = Spec.book st.1.interceptors (bookOf h) := by
      intro cs' c' hc' hl hv'
      obtain ⟨hi, his, hlen⟩ := C18_setHTTPClient_inv st.1 cs' c' hc' (Or.inl ⟨hinv.last, hinv.wrapped⟩)
      rw [← his]
      exact ih _ hi (by rw [hlen, hl]; exact hv')
    cases op with
    | book op =>
      obtain ⟨f1, f2, f3⟩ := applyOp_frame st.1 op
      obtain ⟨h1, h2⟩ := ih (applyOp st.1 op, st.2)
        ⟨by rw [f1]; exact hinv.client, by rw [f3]; exact hinv.last, by rw [f2]; exact hinv.wrapped⟩ hv
      exact ⟨h1, by rw [bookOf, book_cons, ← applyOp_interceptors]; exact h2⟩
    | set c => exact hset st.2 c hv.1 rfl hv.2
    | retr t =>
      exact hset (st.2.set st.1.client t) st.1.client
        (by rw [List.length_set]; exact (List.getElem?_eq_some_iff.1 hinv.client).1) List.length_set hv.2

/-- **client clause.**  Create a SimpleHTTP with any client `c` and interceptors `is` (no client can refer
    to the not-yet-existing SimpleHTTP), then apply ANY history of bookkeeping operations and
    `SetHTTPClient` calls with any clients of the pool (the same ones again, fresh ones, nil / default /
    custom transports) — including the usual idiom of taking the instance's OWN client, replacing its `Transport` and
    handing it back (`retr`).  Every request through the current client then runs the chain exactly once — the
    prescribed call log for the bookkeeping history — and ends in a transport `t` that is not the
    SimpleHTTP: no double wrap, no recursion. -/
theorem C18_client (beh : Nat → Req → Req × Bool) (tf : Tr → Bool) (cs : Clients) (c : Nat) (is : List Nat) (h : List HOp)
    (hc : c < cs.length) (hfresh : ∀ k : Nat, cs[k]? ≠ some (some Tr.self)) (hv : setsValid cs.length h) (req : Req) :
    let st := runH (newSimpleHTTP cs c is) h
    ∃ t, t ≠ .self ∧ st.1.clientTransport = some t ∧
      clientDo beh tf st.1 st.2 req = Spec.visit beh tf t (Spec.book is (bookOf h)) req := by
  dsimp only
  obtain ⟨hi0, his0, hlen0⟩ := C18_setHTTPClient_inv ⟨is, c, none, none⟩ cs c hc (Or.inr ⟨rfl, hfresh⟩)
  obtain ⟨hinv, hbook⟩ := C18_runH_inv (newSimpleHTTP cs c is) h hi0 (by unfold newSimpleHTTP; rw [hlen0]; exact hv)
  obtain ⟨t, ht, hne⟩ := hinv.wrapped
  refine ⟨t, hne, ht, ?_⟩
  unfold clientDo
  rw [hinv.client, Option.getD_some, Option.getD_some,
    C18_visit beh tf _ t ht hne _ (by unfold fuelFor; omega) req, hbook]
  unfold newSimpleHTTP
  rw [his0]

example : setsValid 3 [.set 1, .book (.add [4]), .retr (some (.stub 7)), .set 1, .retr none, .set 2, .set 0] ∧
    (∀ k : Nat, ([some (Tr.stub 0), none, some Tr.dflt] : Clients)[k]? ≠ some (some Tr.self)) := by
  refine ⟨by simp [setsValid], fun k => ?_⟩
  rcases k with _ | _ | _ | k <;> simp

end FpgoVerif.C18
