import FpgoVerif.Model.C02
import FpgoVerif.Proofs.C02Float
import FpgoVerif.Proofs.C02PF
import FpgoVerif.Proofs.C02Narrow
/-! Property theorems for C02 — "Maybe numeric conversions are value-preserving or fail; never silently wrap".

    All theorems are about `convGo` = the evaluator `conv` applied to `Gen.convTable`, the table the
    extractor regenerates from `maybe.go` on every run — the very function the driver executes in the
    correspondence.  `specOK` (Model/C02.lean) is the property's statement, clause by clause; `judge`
    evaluates the same `specOK` on the real code's observations. -/
namespace FpgoVerif.C02

/-! ### the regenerated table has the expected inventory -/

/-- The 14 conversion methods with their own type switch (and `ToUint8` delegating to `ToByte`) are exactly
    the ones the model, the harness and the property talk about. -/
theorem C02_table_methods :
    Gen.convMethods = [("ToFloat64", .float64), ("ToFloat32", .float32), ("ToInt", .int), ("ToInt8", .int8),
      ("ToInt16", .int16), ("ToInt32", .int32), ("ToInt64", .int64), ("ToByte", .uint8), ("ToUint", .uint),
      ("ToUint16", .uint16), ("ToUint32", .uint32), ("ToUint64", .uint64), ("ToUintptr", .uintptr), ("ToBool", .bool)]
    ∧ Gen.convAliases = [("ToUint8", "ToByte")] := by decide +kernel

/-! ### integer → integer (121 cells) -/

/-- Closing theorem over the regenerated table: every (integer target, integer source) cell passes the
    reflective interval checker. -/
theorem C02_table_int :
    intTys.all (fun tgt => intTys.all (fun src => intCellOK Gen.convTable tgt src)) = true := by decide +kernel

/-- Clauses (a), (b), (c) for every integer target, every integer source type and EVERY value of that type. -/
theorem C02_int_to_int (tgt src : Ty) (ht : tgt ∈ intTys) (hs : src ∈ intTys) (lo hi z : Int)
    (hr : src.range = some (lo, hi)) (h1 : lo ≤ z) (h2 : z ≤ hi) :
    specOK tgt (.ty src) (.i z) (convGo tgt (.ty src) (.i z)) = true := by
  have hc := List.all_eq_true.mp (List.all_eq_true.mp C02_table_int tgt ht) src hs
  rw [specOK_int]
  -- each soundness lemma is stated for the fuel its clause needs (`n + 2`: the clause and the sibling's identity clause;
  -- `n + 1`; `n + 3`); here and below `n` is what makes that `convFuel = 6`
  exact intBodyOK_sound goStrconv Gen.convTable 4 tgt src lo hi hr hc z h1 h2

/-! ### float → integer -/

/-- integer targets whose float clauses are direct (guard + `math.Round` + cast); `ToUintptr` goes through `ToUint64` -/
def fltDirectTgts : List Ty := [.int, .int8, .int16, .int32, .int64, .uint, .uint8, .uint16, .uint32, .uint64]

def fltCellOK (tbl : List Case) (tgt : Ty) (is32 : Bool) : Bool :=
  fltBodyOK tbl tgt is32 (lookup tbl tgt (.ty (fltSrc is32)))

/-- Closing theorem over the regenerated table: every (integer target, float32/float64) cell has a two-sided guard
    whose bounds — after Go's rounding of the constants to the float type — lie inside the target range and
    contain the must-succeed range. -/
theorem C02_table_float_to_int :
    fltDirectTgts.all (fun tgt => fltCellOK Gen.convTable tgt true && fltCellOK Gen.convTable tgt false) = true := by
  decide +kernel

/-- Clauses (a), (b), (c) for every float32 (`is32`) / float64 value `x` — NaN, ±Inf, ±0, denormals included —
    and every integer target except `uintptr`.  `x.wf` holds for every decoded bit pattern (`decode_wf`). -/
theorem C02_float_to_int (tgt : Ty) (ht : tgt ∈ fltDirectTgts) (is32 : Bool) (x : FVal) (hw : x.wf (fltP is32)) :
    specOK tgt (.ty (fltSrc is32)) (mkF is32 x) (convGo tgt (.ty (fltSrc is32)) (mkF is32 x)) = true := by
  have hc := List.all_eq_true.mp C02_table_float_to_int tgt ht
  rw [Bool.and_eq_true] at hc
  have hcell : fltCellOK Gen.convTable tgt is32 = true := by
    cases is32
    · exact hc.2
    · exact hc.1
  rw [specOK_mkF]
  exact fltBodyOK_sound goStrconv Gen.convTable 4 tgt is32 hcell x hw

/-- … in particular for every IEEE bit pattern. -/
theorem C02_float64_bits_to_int (tgt : Ty) (ht : tgt ∈ fltDirectTgts) (bits : Nat) :
    specOK tgt (.ty .float64) (.f64 (decode f64 bits)) (convGo tgt (.ty .float64) (.f64 (decode f64 bits))) = true :=
  C02_float_to_int tgt ht false (decode f64 bits) (decode_wf f64 (by decide) bits)

theorem C02_float32_bits_to_int (tgt : Ty) (ht : tgt ∈ fltDirectTgts) (bits : Nat) :
    specOK tgt (.ty .float32) (.f32 (decode f32 bits)) (convGo tgt (.ty .float32) (.f32 (decode f32 bits))) = true :=
  C02_float_to_int tgt ht true (decode f32 bits) (decode_wf f32 (by decide) bits)

/-- Closing theorem for `ToUintptr` ← float32/float64: the clause calls `ToUint64` (whose float clauses pass
    the checker above) and narrows the result with an integer guard that passes the interval checker. -/
theorem C02_table_float_to_uintptr :
    (compBodyOK Gen.convTable .uintptr true (lookup Gen.convTable .uintptr (.ty .float32)) &&
     compBodyOK Gen.convTable .uintptr false (lookup Gen.convTable .uintptr (.ty .float64))) = true := by decide +kernel

/-- Clauses (a), (b), (c) for `ToUintptr` of every float32 / float64 value. -/
theorem C02_float_to_uintptr (is32 : Bool) (x : FVal) (hw : x.wf (fltP is32)) :
    specOK .uintptr (.ty (fltSrc is32)) (mkF is32 x) (convGo .uintptr (.ty (fltSrc is32)) (mkF is32 x)) = true := by
  have hc := C02_table_float_to_uintptr
  rw [Bool.and_eq_true] at hc
  have hcell : compBodyOK Gen.convTable .uintptr is32 (lookup Gen.convTable .uintptr (.ty (fltSrc is32))) = true := by
    cases is32
    · exact hc.2
    · exact hc.1
  rw [specOK_mkF]
  exact compBodyOK_sound goStrconv Gen.convTable 3 .uintptr is32 hcell x hw

-- 2^63 as a float64 is rejected by ToInt64 (the pinned code accepted it and returned MinInt64)
example : convGo .int64 (.ty .float64) (.f64 (.fin false 9223372036854775808 0)) = ⟨.i 0, .overflow⟩ := by decide +kernel
example : convGo .int32 (.ty .float64) (.f64 (.fin false 5 1)) = ⟨.i 3, .ok⟩ := by decide +kernel
-- the hypothesis `hw` can be met
example : (FVal.fin false 5 1).wf 53 := by simp [FVal.wf]

/-! ### integer → float -/

/-- Closing theorem: every (float target, integer source) clause is `val, err := To<S>(); return T(val), err`. -/
theorem C02_table_int_to_float :
    [Ty.float32, .float64].all (fun tgt => intTys.all (fun src =>
      toFloatBodyOK Gen.convTable tgt src (lookup Gen.convTable tgt (.ty src)))) = true := by decide +kernel

/-- Every integer of every integer type converts to float32 / float64 successfully, to the nearest representable
    value (`ofInt f z`: round to nearest, ties to even), which is always finite. -/
theorem C02_int_to_float (tgt : Ty) (f : Fmt) (hf : (tgt = .float32 ∧ f = f32) ∨ (tgt = .float64 ∧ f = f64))
    (src : Ty) (hs : src ∈ intTys) (lo hi z : Int) (hr : src.range = some (lo, hi)) (h1 : lo ≤ z) (h2 : z ≤ hi) :
    convGo tgt (.ty src) (.i z) = ⟨castTo tgt (.i z), .ok⟩ ∧
    specOK tgt (.ty src) (.i z) (convGo tgt (.ty src) (.i z)) = true := by
  have hc := List.all_eq_true.mp (List.all_eq_true.mp C02_table_int_to_float tgt
    (by rcases hf with ⟨rfl, _⟩ | ⟨rfl, _⟩ <;> decide)) src hs
  obtain ⟨e, sp⟩ := toFloatBodyOK_sound goStrconv Gen.convTable 4 tgt src f hf lo hi z hr h1 h2 hc
  have e' : convGo tgt (.ty src) (.i z) = ⟨castTo tgt (.i z), .ok⟩ := e
  refine ⟨e', ?_⟩
  rw [e', specOK_int]
  exact sp

-- 2^24 + 1 is a tie between two float32 values and goes to the even one; 2^63 - 1 becomes 2^63
example : convGo .float32 (.ty .int32) (.i 16777217) = ⟨.f32 (.fin false 16777216 0), .ok⟩ := by decide +kernel
example : convGo .float64 (.ty .int64) (.i 9223372036854775807) = ⟨.f64 (.fin false 9223372036854775808 0), .ok⟩ := by
  decide +kernel

/-! ### string → integer -/

/-- all 11 integer targets: the string clause is `strconv.ParseInt/ParseUint/Atoi` + cast (`ToUintptr` adds a guard
    that every value `ParseUint(…, 64)` can return passes) -/
def strDirectTgts : List Ty := intTys

/-- Closing theorem: the string clause of every such method parses with the signedness of the target and a bitSize
    whose range lies inside the target's range and contains the must-succeed range. -/
theorem C02_table_string_to_int :
    strDirectTgts.all (fun tgt => strIntBodyOK tgt (lookup Gen.convTable tgt (.ty .string))) = true := by decide +kernel

/-- Clauses (a), (b), (c) for EVERY string `w` (numeric or not) and every `strconv` whose ParseInt / ParseUint / Atoi
    satisfy their documented contract (`ParseIntContract`): a nil error means `w` is an integer numeral and the result
    is its value; a canonical numeral that fits converts; "-1" → unsigned, "300" → int8, "1.5", "abc" fail. -/
theorem C02_string_to_int_contract (sc : Strconv) (hc : ParseIntContract sc) (tgt : Ty) (ht : tgt ∈ strDirectTgts)
    (w : String) :
    specOK tgt (.ty .string) (.s w) (conv sc Gen.convTable convFuel tgt (.ty .string) (.s w)) = true :=
  strIntBodyOK_sound sc hc Gen.convTable 5 tgt w (List.all_eq_true.mp C02_table_string_to_int tgt ht)

/-- … in particular for the model the driver runs: `goStrconv` satisfies the contract (`goStrconv_parseInt_contract`). -/
theorem C02_string_to_int (tgt : Ty) (ht : tgt ∈ strDirectTgts) (w : String) :
    specOK tgt (.ty .string) (.s w) (convGo tgt (.ty .string) (.s w)) = true :=
  C02_string_to_int_contract goStrconv goStrconv_parseInt_contract tgt ht w

example : convGo .uint8 (.ty .string) (.s "200") = ⟨.i 200, .ok⟩ := by decide +kernel
example : (convGo .uint8 (.ty .string) (.s "-1")).err = .other := by decide +kernel

/-! ### float → float -/

/-- Closing theorem: `ToFloat64`←float64 and `ToFloat32`←float32 are the identity, `ToFloat64`←float32 is the (exact)
    widening cast, `ToFloat32`←float64 casts under the guard `(-MaxFloat32 <= v && v <= MaxFloat32) || IsInf || IsNaN`
    (constants as Go rounds them to float64). -/
theorem C02_table_float_to_float :
    [Ty.float32, .float64].all (fun tgt => [true, false].all (fun is32 =>
      ffBodyOK Gen.convTable tgt (fltSrc is32) (lookup Gen.convTable tgt (.ty (fltSrc is32))))) = true := by
  decide +kernel

/-- Clauses (a), (b), (c) for float targets and EVERY float32 / float64 source value: the result is the nearest
    representable value (the value itself when widening; ties-to-even when narrowing), a finite value whose rounding
    would overflow float32 is rejected, every finite value of magnitude ≤ MaxFloat32 converts and stays finite
    (`roundRat_isFin`), NaN and ±Inf pass through. -/
theorem C02_float_to_float (tgt : Ty) (ht : tgt ∈ [Ty.float32, .float64]) (is32 : Bool) (x : FVal) :
    specOK tgt (.ty (fltSrc is32)) (mkF is32 x) (convGo tgt (.ty (fltSrc is32)) (mkF is32 x)) = true := by
  have hc := List.all_eq_true.mp (List.all_eq_true.mp C02_table_float_to_float tgt ht) is32 (by cases is32 <;> decide)
  rw [specOK_mkF]
  exact ffBodyOK_sound goStrconv Gen.convTable 4 tgt is32 x hc

-- 1e300 no longer becomes +Inf with a nil error; MaxFloat32 + half an ulp (a tie that would round to 2^128) is rejected
example : (convGo .float32 (.ty .float64) (.f64 (decode f64 0x7e37e43c8800759c))).err = .overflow := by decide +kernel
example : (convGo .float32 (.ty .float64) (.f64 (.fin false (2 ^ 128 - 2 ^ 103) 0))).err = .overflow := by decide +kernel
example : convGo .float32 (.ty .float64) (.f64 (.fin false 16777217 0)) = ⟨.f32 (.fin false 16777216 0), .ok⟩ := by
  decide +kernel
example : convGo .float32 (.ty .float64) (.f64 (.inf true)) = ⟨.f32 (.inf true), .ok⟩ := by decide +kernel

/-! ### string → float, `strconv.ParseFloat` as a contract parameter -/

/-- Closing theorem: `ToFloat64`←string is `return strconv.ParseFloat(s, 64)`, `ToFloat32`←string is
    `val, err := strconv.ParseFloat(s, 32); return float32(val), err`; `ToBool`←string is `return strconv.ParseBool(s)`
    (outside the property: `specOK` demands nothing of it). -/
theorem C02_table_string_to_float :
    (strFloatBodyOK .float64 (lookup Gen.convTable .float64 (.ty .string)) &&
     strFloatBodyOK .float32 (lookup Gen.convTable .float32 (.ty .string)) &&
     (lookup Gen.convTable .bool (.ty .string) == Body.direct .parseBool)) = true := by decide +kernel

/-- For EVERY string and every `strconv` whose `ParseFloat(·, 64)` satisfies its documented contract
    (`ParseFloatContract`): (a) a nil error comes with the nearest float64 of the numeral, (b) a numeral of magnitude
    ≤ MaxFloat64 converts, (c) a numeral that would round to ±Inf and a non-numeral never yield a finite value
    with a nil error. -/
theorem C02_string_to_float64 (sc : Strconv) (hc : ParseFloatContract f64 (sc.parseFloat 64)) (w : String) :
    specOK .float64 (.ty .string) (.s w) (conv sc Gen.convTable convFuel .float64 (.ty .string) (.s w)) = true := by
  have hk := C02_table_string_to_float
  simp only [Bool.and_eq_true] at hk
  exact strFloat64_sound sc hc Gen.convTable 5 w hk.1.1

/-- The same for `ToFloat32` (the float64 that `ParseFloat(·, 32)` returns is narrowed with `float32(val)`; the contract
    says this does not change its value). -/
theorem C02_string_to_float32 (sc : Strconv) (hc : ParseFloatContract f32 (sc.parseFloat 32)) (w : String) :
    specOK .float32 (.ty .string) (.s w) (conv sc Gen.convTable convFuel .float32 (.ty .string) (.s w)) = true := by
  have hk := C02_table_string_to_float
  simp only [Bool.and_eq_true] at hk
  exact strFloat32_sound sc hc Gen.convTable 5 w hk.1.2

/-- … in particular for the model the driver runs: `goStrconv.parseFloat` satisfies the contract for both bit sizes
    (`goStrconv_parseFloat64_contract`, `goStrconv_parseFloat32_contract`: a numeral is rounded from its exact rational
    value; `roundRat_isFin`; round-to-nearest-even is idempotent, `roundRat_idem`).  No hypothesis is left. -/
theorem C02_string_to_float64_go (w : String) :
    specOK .float64 (.ty .string) (.s w) (convGo .float64 (.ty .string) (.s w)) = true :=
  C02_string_to_float64 goStrconv goStrconv_parseFloat64_contract w

theorem C02_string_to_float32_go (w : String) :
    specOK .float32 (.ty .string) (.s w) (convGo .float32 (.ty .string) (.s w)) = true :=
  C02_string_to_float32 goStrconv goStrconv_parseFloat32_contract w

-- non-vacuity of the contract hypothesis: two different functions satisfy it
example : ParseFloatContract f64 refParseFloat64 := refParseFloat64_contract
example : ParseFloatContract f32 (goStrconv.parseFloat 32) := goStrconv_parseFloat32_contract
-- sanity samples (TEST, by evaluation): overflow, the float32 overflow threshold, ties, a non-numeral
example : ["1e400", "3.4028235677973366e38", "0.1", "16777217", "abc", "-1.5e-3"].all (fun w =>
    specOK .float32 (.ty .string) (.s w) (convGo .float32 (.ty .string) (.s w)) &&
    specOK .float64 (.ty .string) (.s w) (convGo .float64 (.ty .string) (.s w))) = true := by decide +kernel

/-- `ToBool` of a string (`strconv.ParseBool`) is outside the property: nothing is demanded. -/
theorem C02_string_to_bool (w : String) (r : Res) : specOK .bool (.ty .string) (.s w) r = true := by
  simp [specOK, specStr, Ty.range, Ty.must, Ty.fmt]

/-! ### absent values, unsupported kinds, bool sources, ToBool -/

/-- Closing theorem: every method starts with the `IsNil` prelude returning `ErrConversionNil`, its `default`
    clause returns `ErrConversionUnsupported`, and every `ToBool` clause of a numeric type is `val != 0`. -/
theorem C02_table_misc :
    allTgts.all (fun tgt => errRowOK Gen.convTable tgt .nil .nilErr && errRowOK Gen.convTable tgt .dflt .unsupported) = true
    ∧ numTys.all (fun src => toBoolBodyOK Gen.convTable src (lookup Gen.convTable .bool (.ty src))) = true := by
  decide +kernel

/-- Unsupported kinds (whatever reaches the `default` clause) fail with `ErrConversionUnsupported`. -/
theorem C02_unsupported (tgt : Ty) (ht : tgt ∈ allTgts) (x : Val) :
    (convGo tgt .dflt x).err = .unsupported ∧ specOK tgt .dflt x (convGo tgt .dflt x) = true := by
  have h := List.all_eq_true.mp C02_table_misc.1 tgt ht
  rw [Bool.and_eq_true] at h
  have this : (convGo tgt .dflt x).err = .unsupported :=
    errRow_sound goStrconv Gen.convTable 5 tgt .dflt .unsupported x h.2
  exact ⟨this, by simp [specOK, this]⟩

/-- An absent value fails with `ErrConversionNil`. -/
theorem C02_nil (tgt : Ty) (ht : tgt ∈ allTgts) (x : Val) :
    (convGo tgt .nil x).err = .nilE ∧ specOK tgt .nil x (convGo tgt .nil x) = true := by
  have h := List.all_eq_true.mp C02_table_misc.1 tgt ht
  rw [Bool.and_eq_true] at h
  have this : (convGo tgt .nil x).err = .nilE :=
    errRow_sound goStrconv Gen.convTable 5 tgt .nil .nilErr x h.1
  exact ⟨this, by simp [specOK, this]⟩

/-- `ToBool` of an integer is exactly `z != 0` (never an error). -/
theorem C02_toBool_int (src : Ty) (hs : src ∈ intTys) (z : Int) :
    convGo .bool (.ty src) (.i z) = ⟨.b (decide (z ≠ 0)), .ok⟩ ∧
    specOK .bool (.ty src) (.i z) (convGo .bool (.ty src) (.i z)) = true := by
  have h := List.all_eq_true.mp C02_table_misc.2 src (List.mem_append_left _ hs)
  have e : convGo .bool (.ty src) (.i z) = ⟨.b (decide (z ≠ 0)), .ok⟩ :=
    toBoolBodyOK_sound goStrconv Gen.convTable 4 src (.i z) h
  refine ⟨e, ?_⟩
  rw [e, specOK_int]
  simp [specNum, Ty.range, Ty.must, Ty.fmt]

/-- `ToBool` of a float is exactly `x != 0`: true for NaN and ±Inf, false for ±0. -/
theorem C02_toBool_float (is32 : Bool) (x : FVal) :
    convGo .bool (.ty (fltSrc is32)) (mkF is32 x) = ⟨.b x.ne0, .ok⟩ ∧
    specOK .bool (.ty (fltSrc is32)) (mkF is32 x) (convGo .bool (.ty (fltSrc is32)) (mkF is32 x)) = true := by
  have h := List.all_eq_true.mp C02_table_misc.2 (fltSrc is32) (by cases is32 <;> decide)
  have e : convGo .bool (.ty (fltSrc is32)) (mkF is32 x) = ⟨.b x.ne0, .ok⟩ :=
    (toBoolBodyOK_sound goStrconv Gen.convTable 4 (fltSrc is32) (mkF is32 x) h).trans (by cases is32 <;> rfl)
  refine ⟨e, ?_⟩
  rw [e, specOK_mkF]
  cases is32 <;> simp [specNum, Ty.range, Ty.must, Ty.fmt, mkF]

/-- A wrapped bool converts to 1 / 0 (1.0 / 0.0, itself) with every method: both values × all 14 methods,
    by complete enumeration. -/
theorem C02_bool_source (tgt : Ty) (ht : tgt ∈ allTgts) (b : Bool) :
    specOK tgt (.ty .bool) (.b b) (convGo tgt (.ty .bool) (.b b)) = true := by
  have h : allTgts.all (fun tgt => [true, false].all (fun b =>
      specOK tgt (.ty .bool) (.b b) (convGo tgt (.ty .bool) (.b b)))) = true := by decide +kernel
  exact List.all_eq_true.mp (List.all_eq_true.mp h tgt ht) b (by cases b <;> decide)

example : convGo .float32 (.ty .bool) (.b true) = ⟨.f32 (.fin false 1 0), .ok⟩ := by decide +kernel

example : specOK .uint8 (.ty .int8) (.i (-1)) (convGo .uint8 (.ty .int8) (.i (-1))) = true := by decide +kernel
example : convGo .uint8 (.ty .int8) (.i (-1)) = ⟨.i 0, .overflow⟩ := by decide +kernel
example : convGo .int16 (.ty .uint64) (.i 32767) = ⟨.i 32767, .ok⟩ := by decide +kernel

/-! ### every row of the regenerated table belongs to exactly one closing theorem -/

/-- the row sets of the closing theorems above -/
inductive Frag
  | intInt        -- C02_table_int
  | fltInt        -- C02_table_float_to_int
  | fltUintptr    -- C02_table_float_to_uintptr
  | intFlt        -- C02_table_int_to_float
  | fltFlt        -- C02_table_float_to_float
  | strInt        -- C02_table_string_to_int
  | strFlt        -- C02_table_string_to_float (float targets and the ToBool row)
  | boolSrc       -- C02_bool_source (complete enumeration of both values)
  | toBoolNum     -- C02_table_misc, second part
  | errRows       -- C02_table_misc, first part (nil prelude, default clause)
deriving DecidableEq, Repr

def allFrags : List Frag :=
  [.intInt, .fltInt, .fltUintptr, .intFlt, .fltFlt, .strInt, .strFlt, .boolSrc, .toBoolNum, .errRows]

def fltTys : List Ty := [.float32, .float64]

/-- does the closing theorem `f` range over the row (method `tgt`, clause `k`) — written with the very lists the
    closing theorems iterate over -/
def Frag.covers (f : Frag) (tgt : Ty) (k : Kind) : Bool :=
  match f, k with
  | .intInt, .ty src => intTys.contains tgt && intTys.contains src
  | .fltInt, .ty src => fltDirectTgts.contains tgt && fltTys.contains src
  | .fltUintptr, .ty src => tgt == .uintptr && fltTys.contains src
  | .intFlt, .ty src => fltTys.contains tgt && intTys.contains src
  | .fltFlt, .ty src => fltTys.contains tgt && fltTys.contains src
  | .strInt, .ty src => strDirectTgts.contains tgt && src == .string
  | .strFlt, .ty src => (fltTys.contains tgt || tgt == .bool) && src == .string
  | .boolSrc, .ty src => allTgts.contains tgt && src == .bool
  | .toBoolNum, .ty src => tgt == .bool && numTys.contains src
  | .errRows, .nil => allTgts.contains tgt
  | .errRows, .dflt => allTgts.contains tgt
  | _, _ => false

/-- The union of the row sets of the closing theorems is the whole regenerated table, the sets are disjoint, and no
    (method, clause) key occurs twice: a row or case clause added to (or duplicated in) `maybe.go` cannot escape all
    theorems — it makes this one fail. -/
theorem C02_table_complete :
    Gen.convTable.all (fun c => (allFrags.filter (fun f => f.covers c.tgt c.src)).length == 1) = true
    ∧ (Gen.convTable.map (fun c => (c.tgt, c.src))).Nodup
    ∧ Gen.convTable.length = 14 * 17 := by
  refine ⟨by decide +kernel, ?_, by decide +kernel⟩
  -- keys with distinct numbers are distinct; the numbers are compared in one pass (`distinctNats`), because deciding
  -- `Nodup` of the 238 keys directly takes some 28 000 comparisons of `Ty × Kind`
  have h : distinctNats ((Gen.convTable.map (fun c => (c.tgt, c.src))).map fun (t, k) =>
      t.ctorIdx * 32 + (match k with | .ty s => s.ctorIdx | k => 16 + k.ctorIdx)) = true := by decide +kernel
  exact (distinctNats_sound h).2.of_map _

end FpgoVerif.C02
