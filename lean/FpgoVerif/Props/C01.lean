import FpgoVerif.Proofs.C01Lemmas
import FpgoVerif.Gen.MaybeInventory
/-! Property theorems for C01 — "Maybe: one consistent notion of absence, monad laws, total (never panics)".

    All theorems are about the definitions of `Model/C01Maybe.lean` that the driver executes (`mk`, `just`,
    `justGenerics`, the `MaybeV.*` methods, `cloneTo`), for ALL values `v : GoVal`, both constructors
    (`Ctor.just` = `Maybe.Just`, `Ctor.generics T` = `JustGenerics[T]`), all heaps and all callbacks. -/

namespace FpgoVerif.C01
open Spec

local notation "Heap" => List GoVal

/-- Equality of all the observers the property names in its agreement clause (IsNil, IsPresent, Or, Let,
    UnwrapInterface, Type, every conversion, ToString — the latter in the heap `h` in which the comparison is made,
    since `%v` of a pointer to a struct/slice/map prints the pointee).  Defined here so that it cannot be weakened silently. -/
def ObsEq (h : Heap) (m m' : MaybeV) : Prop :=
  m.isNil = m'.isNil ∧ m.isPresent = m'.isPresent ∧ (∀ d, m.or d = m'.or d) ∧
  (∀ (run : Nat → Nat) (s : Nat), m.letRun run s = m'.letRun run s) ∧
  m.unwrapInterface = m'.unwrapInterface ∧ m.type = m'.type ∧
  (∀ c ∈ allConversions, m.conv c = m'.conv c) ∧ m.toStr h = m'.toStr h

theorem ObsEq.refl (h : Heap) (m : MaybeV) : ObsEq h m m :=
  ⟨rfl, rfl, fun _ => rfl, fun _ _ => rfl, rfl, rfl, fun _ _ => rfl, rfl⟩

/-! ### one notion of absence -/

/-- Construction never panics, and **every observer agrees with the one fact `absent v`**:
    IsNil = absent; IsPresent = ¬IsNil; Or yields the fallback only when absent and otherwise `v` itself; Let runs
    its callback exactly once when present and never when absent; UnwrapInterface / Type / every conversion report
    nil / nil / (0, ErrConversionNil) exactly when absent; an absent value renders as "<nil>". -/
theorem C01_agree (c : Ctor) (v : GoVal) :
    ∃ m, mk c v = .ok m ∧
      m.isNil = absent v ∧
      m.isPresent = !m.isNil ∧
      (∀ d, m.or d = if absent v then d else v) ∧
      (∀ {σ} (run : σ → σ) (s : σ), m.letRun run s = if absent v then s else run s) ∧
      (m.unwrapInterface = if absent v then .nil else v) ∧
      (m.unwrapInterface = .nil ↔ absent v = true) ∧
      (m.type = if absent v then none else typeOf? v) ∧
      (m.type = none ↔ absent v = true) ∧
      (∀ conv ∈ allConversions, (m.conv conv = .errNil ↔ absent v = true)) ∧
      (absent v = true → ∀ h : Heap, m.toStr h = some (hexOfAscii "<nil>")) := by
  refine ⟨built c v, mk_eq c v, isNil_built c v, by rw [isNil_built, isPresent_built], or_built c v,
    letRun_built c v, unwrapInterface_built c v, ?_, type_built c v, ?_, fun cv _ => ?_, fun hab => toStr_built_absent hab⟩
  -- the equivalences: a present `v` is not nil, has a dynamic type, and converts without `ErrConversionNil`
  · rw [unwrapInterface_built]; exact ite_eq_left_iff_of_ne not_absent_ne_nil
  · rw [type_built]; exact ite_eq_left_iff_of_ne fun hab e => not_absent_ne_nil hab (eq_nil_of_typeOf_none e)
  · rw [conv_built]; exact ite_eq_left_iff_of_ne fun _ => nofun

example : ∃ m, mk .just (.ptr (.int .int) none) = .ok m ∧ m.isNil = true ∧ m.conv "ToInt8" = .errNil := ⟨_, rfl, rfl, rfl⟩
example : ∃ m, mk (.generics .slice) (.slice .nil) = .ok m ∧ m.isNil = false ∧ m.isPresent = true := ⟨_, rfl, rfl, rfl⟩

/-- "absent renders as <nil>" rests on the `IsNil()` guard of `ToString`, not on `fmt`: handed a typed nil pointer whose
    type has a nil-tolerant `String()` / `Error()` method, `%v` prints that method's text — yet the absent Maybe built
    from it (either constructor) renders as "<nil>" (`C01_agree`, last clause, holds for these `v` as for all others) -/
example :
    fmtV [] 0 (.ptr (.named .node) none) = some (hexOfAscii "[]") ∧
    fmtV [] 0 (.ptr (.named .err) none) = some (hexOfAscii "no error") ∧
    (built (.generics (.ptr (.named .node))) (.ptr (.named .node) none)).toStr [] = some (hexOfAscii "<nil>") ∧
    (built (.generics .any) (.ptr (.named .err) none)).toStr [] = some (hexOfAscii "<nil>") ∧
    (built .just (.ptr (.named .err) none)).toStr [] = some (hexOfAscii "<nil>") := by
  refine ⟨rfl, rfl, rfl, rfl, rfl⟩

/-- `None`, `JustGenerics[any](nil)` and `JustGenerics[*T](nil)`: different representations of absence, same observations -/
theorem C01_absent_obsEq (h : Heap) (c c' : Ctor) (v v' : GoVal) (hv : absent v = true) (hv' : absent v' = true) :
    ObsEq h (built c v) (built c' v') := by
  simp only [ObsEq, isNil_built, isPresent_built, or_built, letRun_built, unwrapInterface_built, type_built, conv_built,
    toStr_built_absent, hv, hv', if_true, implies_true, and_self]

/-- The same agreement stated on `observe`, the function the driver runs for every op token: for the observers the
    property names, the observation is the `Spec` value — a function of `absent v` and `v` alone. -/
theorem C01_observe_spec {α} (c : Ctor) (v : GoVal) (h : Heap) :
    ∃ m, mk c v = .ok m ∧
      observe (α := α) h m .isNil = .ok (h, .bool (Spec.isNil v)) ∧
      observe (α := α) h m .isPresent = .ok (h, .bool (Spec.isPresent v)) ∧
      (∀ d, observe (α := α) h m (.or d) = .ok (h, .val (Spec.or v d))) ∧
      observe (α := α) h m .letRun = .ok (h, .count (Spec.letCount v)) ∧
      observe (α := α) h m .unwrapInterface = .ok (h, .val (Spec.unwrapInterface v)) ∧
      observe (α := α) h m .type = .ok (h, .type (Spec.type v)) ∧
      (∀ cv ∈ allConversions, observe (α := α) h m (.conv cv) = .ok (h, .conv (Spec.conv v))) ∧
      (absent v = true → observe (α := α) h m .toString = .ok (h, .str (some Spec.nilString))) ∧
      (∀ f : GoVal → R α, observe h m (.flatMap f) = (f (wrapped c v)).map (fun r => (h, .res r))) := by
  refine ⟨built c v, mk_eq c v, ?_⟩
  simp only [observe, isNil_built, isPresent_built, or_built, letRun_built, unwrapInterface_built, type_built, conv_built,
    flatMap_eq, ref_built]
  refine ⟨rfl, rfl, fun _ => rfl, ?_, rfl, rfl, fun _ _ => rfl, fun hab => ?_, fun f => ?_⟩
  · unfold Spec.letCount; cases absent v <;> rfl
  · rw [toStr_built_absent hab]; rfl
  · cases f (wrapped c v) <;> rfl

/-! ### FlatMap and the monad laws -/

/-- `FlatMap(f)` is `f` applied to the wrapped value (for every result type of `f`: pure, panicking, logging …) -/
theorem C01_flatMap {α} (c : Ctor) (v : GoVal) (f : GoVal → α) :
    ∃ m, mk c v = .ok m ∧ m.flatMap f = f (wrapped c v) :=
  ⟨built c v, mk_eq c v, by rw [flatMap_eq, ref_built]⟩

/-- Left identity `Just(a).FlatMap(f) = f(a)`: exact for `JustGenerics[T]`, and for `Maybe.Just` whenever `a` is not
    a typed nil pointer.  (`Maybe.Just` maps a typed nil pointer to `None`, whose wrapped value is the untyped nil:
    there `Just(a).FlatMap(f) = f(nil)` — `C01_flatMap` with `wrapped`.) -/
theorem C01_left_identity {α} (c : Ctor) (a : GoVal) (f : GoVal → α)
    (h : c = .just → ∀ t, a ≠ .ptr t none) :
    ∃ m, mk c a = .ok m ∧ m.flatMap f = f a := by
  refine ⟨built c a, mk_eq c a, ?_⟩
  rw [flatMap_eq, ref_built]
  cases c with
  | generics T => rfl
  | just =>
    cases a with
    | ptr t p => cases p with
      | none => exact absurd rfl (h rfl t)
      | some p => rfl
    | _ => rfl

example : ∀ t, (GoVal.int .int 5) ≠ .ptr t none := by intro t h; cases h

/-- Right identity `m.FlatMap(Just) ≈ m`, for every constructor `c'` of the same instantiation as `m` (the only ones
    `FlatMap`'s signature admits): the result is observationally equal to `m`, and identical when `c' = c`. -/
theorem C01_right_identity (c c' : Ctor) (v : GoVal) (hp : c'.param = c.param) :
    ∃ m m', mk c v = .ok m ∧ m.flatMap (mk c') = .ok m' ∧ (∀ h, ObsEq h m' m) ∧ (c' = c → m' = m) := by
  refine ⟨built c v, built c' (wrapped c v), mk_eq c v, by rw [flatMap_eq, ref_built, mk_eq], fun h => ?_,
    fun e => e ▸ built_wrapped c v⟩
  cases hab : absent v
  · -- present: both are `some T v false true`
    have hw : absent (wrapped c v) = false := by rw [absent_wrapped, hab]
    rw [built_present hw, ← built_wrapped c v, built_present hw, hp]
    exact ObsEq.refl h _
  · exact C01_absent_obsEq h c' c _ _ (by rw [absent_wrapped, hab]) hab

example : (Ctor.generics .any).param = Ctor.just.param := rfl

/-- Associativity, for callbacks that may panic (`R`) … -/
theorem C01_assoc (m : MaybeV) (f g : GoVal → R MaybeV) :
    (do let r ← m.flatMap f; r.flatMap g) = m.flatMap (fun x => do let r ← f x; r.flatMap g) := by
  cases m <;> rfl

/-- … and for pure callbacks. -/
theorem C01_assoc_pure (m : MaybeV) (f g : GoVal → MaybeV) :
    (m.flatMap f).flatMap g = m.flatMap (fun x => (f x).flatMap g) := by
  cases m <;> rfl

/-! ### ToMaybe flattens exactly one level -/

/-- `ToMaybe` of a Maybe wrapping a Maybe `m'` of the same instantiation is `m'` itself (not `m'.ToMaybe()`:
    exactly one level); wrapping anything else — or nothing — it is the receiver. -/
theorem C01_toMaybe (c : Ctor) (v : GoVal) :
    ∃ m, mk c v = .ok m ∧
      m.toMaybe = (if absent v then m else (innerMaybe? c.param v).getD m) := by
  refine ⟨built c v, mk_eq c v, ?_⟩
  cases hab : absent v
  · rw [built_present hab]; exact toMaybe_present _ v _
  · rcases built_cases c v with hb | hb <;> rw [hb, if_pos rfl]
    · rfl
    · rw [hab]; rfl

/-- The flattening case spelled out with the constructors: `Maybe.Just(m').ToMaybe() = m'` and
    `JustGenerics[any](m').ToMaybe() = m'` for every `m' : MaybeDef[any]` (`None` included). -/
theorem C01_toMaybe_flattens (c : Ctor) (hc : c.param = .any) (m' : MaybeV) (hm' : m'.param = .any) :
    ∃ m, mk c m'.toVal = .ok m ∧ m.toMaybe = m' := by
  obtain ⟨m, hm, ht⟩ := C01_toMaybe c m'.toVal
  refine ⟨m, hm, ?_⟩
  rw [ht, hc]
  cases m' with
  | none => simp [MaybeV.toVal, absent, innerMaybe?]
  | some T r n p =>
    obtain rfl : T = .any := hm'
    simp [MaybeV.toVal, absent, innerMaybe?]

/-- exactly one level: a Maybe nested twice loses one level, not two -/
example :
    (built .just (built .just (built .just (.int .int 5)).toVal).toVal).toMaybe = built .just (built .just (.int .int 5)).toVal ∧
    (built .just (built .just (built .just (.int .int 5)).toVal).toVal).toMaybe ≠ built .just (.int .int 5) := by
  constructor <;> decide

/-! ### Clone -/

/-- `Clone` never panics and returns an equal Maybe: the very same Maybe when `v` is not a non-nil pointer; when it
    is, the Maybe built from a *fresh* pointer — an address distinct from `v`'s and from every address in use —
    whose target is an equal copy of `v`'s target (so IsNil/IsPresent/Type/conversions coincide and ToString coincides
    in the resulting heap), and no existing cell is modified. -/
theorem C01_clone (c : Ctor) (v : GoVal) (h : Heap) (hty : HasTy c.param v) (hwf : WF h v) :
    ∃ m h' m', mk c v = .ok m ∧ m.clone h = .ok (h', m') ∧
      m'.param = m.param ∧ m'.isNil = m.isNil ∧ m'.isPresent = m.isPresent ∧ m'.type = m.type ∧
      (∀ cv, m'.conv cv = m.conv cv) ∧ m'.toStr h' = m.toStr h' ∧
      (∀ b, b < h.length → h'[b]? = h[b]?) ∧
      (match v with
       | .ptr t (some a) => m' = built c (.ptr t (some h.length)) ∧ h.length ≠ a ∧ h'[h.length]? = h[a]? ∧ a < h.length
       | _ => m' = m ∧ h' = h ∧ ObsEq h' m' m) := by
  refine ⟨built c v, ?_⟩
  cases hl : (fpIsPtr v && !absent v)
  · refine ⟨h, built c v, mk_eq c v, clone_nonptr c v h hty hl, rfl, rfl, rfl, rfl, fun _ => rfl, rfl, fun _ _ => rfl, ?_⟩
    split
    · cases hl
    · exact ⟨rfl, rfl, ObsEq.refl h _⟩
  · obtain ⟨t, a, rfl⟩ := livePtr_of hl
    obtain ⟨x, hx, hok⟩ := hwf t a rfl
    have ha : a < h.length := (List.getElem?_eq_some_iff.1 hx).1
    have hfr : ∀ b, b < h.length → (h ++ [x])[b]? = h[b]? := fun b hb => List.getElem?_append_left hb
    refine ⟨h ++ [x], built c (.ptr t (some h.length)), mk_eq c _, ?_⟩
    rw [built_present (v := .ptr t (some a)) rfl, built_present (v := .ptr t (some h.length)) rfl]
    -- the clone is `CloneTo` into the zero value of `T`, which is no live pointer: the copy goes to a fresh cell
    refine ⟨cloneTo_ptr_fresh true hx hok (present_implements hty rfl) (zeroOf_not_livePtr _), rfl, rfl, rfl, rfl, fun _ => rfl, ?_,
      hfr, (built_present rfl).symm, Nat.ne_of_gt ha, by rw [List.getElem?_concat_length, hx], ha⟩
    -- `%v` of a pointer looks at the pointee only, and the two pointees are equal
    simp only [MaybeV.toStr, Bool.false_eq_true, if_false, fmtV, List.getElem?_concat_length, hfr a ha, hx]

/-- non-vacuity: a heap with one int cell and a pointer to it satisfy the hypotheses, for both constructors -/
example : HasTy (Ctor.generics (.ptr (.int .int))).param (.ptr (.int .int) (some 0)) ∧ HasTy Ctor.just.param (.ptr (.int .int) (some 0))
    ∧ WF [.int .int 7] (.ptr (.int .int) (some 0)) :=
  ⟨Or.inl rfl, Or.inl rfl, fun t a e => by cases e; exact ⟨_, rfl, rfl⟩⟩

/-- non-vacuity for a pointer to an `interface{}` variable (holding an int, or nil) -/
example : WF [.int .int 7, .nil] (.ptr .any (some 0)) ∧ WF [.int .int 7, .nil] (.ptr .any (some 1)) :=
  ⟨fun t a e => by cases e; exact ⟨_, rfl, Or.inr rfl⟩, fun t a e => by cases e; exact ⟨_, rfl, Or.inl rfl⟩⟩

/-! ### totality -/

/-- what a caller must respect for the two observers that take more than a plain value: a `FlatMap` callback that
    itself returns, and a `CloneTo` destination that is a live pointer of the same pointer type as `v` (or nil /
    no pointer at all).  Every other observer is unconditional. -/
def ArgOK {α} (v : GoVal) (h : Heap) : Observer α → Prop
  | .cloneTo d => WF h d ∧ ∀ t a t' b, v = .ptr t (some a) → d = .ptr t' (some b) → t' = t
  | .flatMap f => ∀ x, ∃ r, f x = .ok r
  | _ => True

/-- **No observer panics, for any `v`, with both constructors**: construction, every method of `MaybeDef[T]`, the
    extra `To*` methods and `CloneTo` all return — although the model of `reflect` panics on `IsNil` of a non-nillable
    kind, on `Elem`/`Interface`/`Type` of the zero Value, on `Set` of an unaddressable or differently typed Value, and a
    failed type assertion panics. -/
theorem C01_total {α} (c : Ctor) (v : GoVal) (h : Heap) (o : Observer α)
    (hty : HasTy c.param v) (hwf : WF h v) (harg : ArgOK v h o) :
    ∃ m, mk c v = .ok m ∧ ∃ r, observe h m o = .ok r := by
  refine ⟨built c v, mk_eq c v, ?_⟩
  -- an observer with an effect is `x >>= fun r => pure …`: it returns when `x` does
  have ret : ∀ {β γ} {x : R β} {f : β → R γ}, (∃ r, x = .ok r) → (∀ b, ∃ r, f b = .ok r) → ∃ r, x >>= f = .ok r :=
    fun ⟨r, hr⟩ hf => hr ▸ hf r
  cases o with
  | toPtr => exact ret (toPtr_ok c v h hwf) fun ⟨_, _⟩ => ⟨_, rfl⟩
  | clone =>
    obtain ⟨m, h', m', hm, hc, _⟩ := C01_clone c v h hty hwf
    rw [mk_eq] at hm; cases hm
    exact ret ⟨_, hc⟩ fun ⟨_, _⟩ => ⟨_, rfl⟩
  | cloneTo d =>
    refine ret ?_ fun ⟨_, _⟩ => ⟨_, rfl⟩
    rw [param_built]
    cases hl : (fpIsPtr v && !absent v)
    · exact cloneTo_built_nonptr c v d h hty hl
    · obtain ⟨t, a, rfl⟩ := livePtr_of hl
      obtain ⟨x, hx, hok⟩ := hwf t a rfl
      rw [built_present rfl]
      cases hd : (fpIsPtr d && !absent d)
      · exact ⟨_, cloneTo_ptr_fresh true hx hok (present_implements hty rfl) hd⟩
      · obtain ⟨t', b, rfl⟩ := livePtr_of hd
        obtain ⟨y, hy, hyok⟩ := harg.1 t' b rfl
        cases harg.2 t a t' b rfl rfl
        exact ⟨_, cloneTo_ptr_dest true hx hok hy hyok⟩
  | just x => exact ret ⟨_, just_eq x⟩ fun _ => ⟨_, rfl⟩
  | flatMap f => exact ret (flatMap_eq _ f ▸ harg _) fun _ => ⟨_, rfl⟩
  | _ => exact ⟨_, rfl⟩

/-- non-vacuity of the hypotheses: cloning a live `*int` into another live `*int` -/
example : ArgOK (α := MaybeV) (.ptr (.int .int) (some 0)) [.int .int 7, .int .int 9] (.cloneTo (.ptr (.int .int) (some 1))) :=
  ⟨fun t a e => by cases e; exact ⟨_, rfl, rfl⟩, fun t a t' b e e' => by cases e; cases e'; rfl⟩

/-- the guards matter: the same `reflect` calls without them do panic in the model (the pinned, pre-fix `ToPtr`
    called `Interface()` on the zero Value for a typed nil pointer) -/
example : (do let ind ← indirect [] (valueOf (.ptr (.int .int) none)); ind.interface : R GoVal) =
    .error "reflect: call of reflect.Value.Interface on zero Value" := rfl
example : (valueOf (.int .int 3)).isNil = .error "reflect: call of reflect.Value.IsNil on a non-nillable Value" := rfl

/-! ### closing theorems over the inventory regenerated from maybe.go on every run (`Gen/MaybeInventory.lean`) -/

/-- every method of the interface `MaybeDef` is a method of `someDef` that the model has and the harness exercises -/
theorem C01_gen_interface_observed :
    Gen.maybeDefMethods.all someDefMethodNames.contains = true := by decide +kernel

/-- `someDef[T]` has exactly the methods the model mirrors -/
theorem C01_gen_someDef_methods :
    sameSet (Gen.someDefMethods.map (·.1)) someDefMethodNames = true := by decide +kernel

/-- `noneDef` overrides exactly the methods listed in `noneOverrides` (all others are promoted from the embedded
    `someDef[interface{}]`, as the `none` branches of the model assume), each with the one-line body the model mirrors -/
theorem C01_gen_none_overrides :
    sameSet (Gen.noneDefMethods.map (·.1)) noneOverrides = true ∧
    Gen.noneDefMethods.all noneBodies.contains = true ∧ noneBodies.all Gen.noneDefMethods.contains = true := by decide +kernel

/-- every conversion of `someDef` starts with `if IsNil() { return zero, ErrConversionNil }` (or delegates to one that
    does) and `ErrConversionNil` is mentioned nowhere else in `someDef`'s methods: what `someConv` abstracts -/
theorem C01_gen_conversions_guarded :
    allConversions.all (fun c => Gen.someDefMethods.any (fun e => e.1 == c && convEntryOK e)) = true ∧
    Gen.someDefMethods.all (fun e => allConversions.contains e.1 || e.2.2.1 == 0) = true := by decide +kernel

end FpgoVerif.C01
