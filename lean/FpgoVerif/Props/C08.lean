import FpgoVerif.Proofs.C08Lin
import FpgoVerif.Proofs.C08OverLLQ
import FpgoVerif.Gen.LockModes
import FpgoVerif.Proofs.C08Tables
/-! Property theorems for C08 — ConcurrentQueue / ConcurrentStack are linearizable over any wrapped
    queue / stack.  `step`, `run`, `Reach`, `queueSys`, `stackSys` are the definitions the driver executes.

    The generic theorems hold for ANY sequential object; C06 proves that `LinkedListQueue` refines the ideal deque
    `qApply`/`sApply` used here as the wrapped object, and the last section composes the two. -/
namespace FpgoVerif.C08

variable {σ Op ρ : Type}

/-- **Linearizability, generic.**  For any sequential object and any reachable state of the system in which
    every method takes the lock exclusively (any number of threads, any interleaving, any length):
    (1) the linearization `lin` (operations in commit = lock-acquisition order) is a legal sequential
    history of the object — running `apply` one operation at a time from `init` yields exactly the recorded
    return values and the current state of the wrapped object (never a torn state);
    (2) `lin` is strictly ordered by its time stamps;
    (3) every completed call took effect at one point strictly between its invocation and its response
    and returned what that point of the sequential history returned. -/
theorem C08_linearizable (sys : Sys σ Op ρ) (hx : ∀ op, sys.mode op = .excl) (s : State σ Op ρ)
    (h : Reach sys s) :
    seqRun sys.apply sys.init (s.lin.map (·.op)) = (s.obj, s.lin.map (·.ret)) ∧
    s.lin.Pairwise (fun a b => a.linAt < b.linAt) ∧
    ∀ d ∈ s.done, d.invAt < d.linAt ∧ d.linAt < d.retAt ∧ (⟨d.t, d.op, d.ret, d.linAt⟩ : LinE Op ρ) ∈ s.lin :=
  let i := reach_inv sys hx h
  ⟨i.seq, i.sorted, fun d hd => let ⟨a, b, _, c⟩ := i.doneOK d hd; ⟨a, b, c⟩⟩

/-- the order is consistent with real time: a call that returned before another was invoked is linearized
    earlier; two completed calls never share a linearization entry -/
theorem C08_real_time_order (sys : Sys σ Op ρ) (hx : ∀ op, sys.mode op = .excl) (s : State σ Op ρ)
    (h : Reach sys s) :
    (∀ d1 ∈ s.done, ∀ d2 ∈ s.done, d1.retAt < d2.invAt → d1.linAt < d2.linAt) ∧
    s.done.Pairwise (fun a b => a.linAt ≠ b.linAt) := by
  have i := reach_inv sys hx h
  refine ⟨?_, i.doneDistinct⟩
  intro d1 h1 d2 h2 hlt
  have a := i.doneOK d1 h1
  have b := i.doneOK d2 h2
  omega

/-- every single return value is the one the sequential object gives at that position of the linearization -/
theorem C08_each_return_is_sequential (sys : Sys σ Op ρ) (hx : ∀ op, sys.mode op = .excl) (s : State σ Op ρ)
    (h : Reach sys s) (pre post : List (LinE Op ρ)) (e : LinE Op ρ) (hl : s.lin = pre ++ e :: post) :
    e.ret = (sys.apply (seqRun sys.apply sys.init (pre.map (·.op))).1 e.op).2 := by
  have hs := congrArg Prod.snd (reach_inv sys hx h).seq
  simp only [hl, List.map_append, List.map_cons, seqRun_append, seqRun] at hs
  -- the returns of `pre` take up as many places on both sides; `e`'s comes next
  have hlen : (seqRun sys.apply sys.init (pre.map (·.op))).2.length = (pre.map (·.ret)).length := by
    rw [seqRun_length, List.length_map, List.length_map]
  exact (List.cons.inj (List.append_inj hs hlen).2).1.symm

/-- the linearization order IS the lock-acquisition order: the threads of `lin` are exactly the sequence of
    lock acquisitions, up to the one thread that holds the lock and has not committed yet -/
theorem C08_lin_is_acquisition_order (sys : Sys σ Op ρ) (hx : ∀ op, sys.mode op = .excl) (s : State σ Op ρ)
    (h : Reach sys s) :
    s.acqs = s.lin.map (·.t) ∨ ∃ t, precommit (s.pc t) ∧ s.acqs = s.lin.map (·.t) ++ [t] :=
  (reach_inv sys hx h).acq_order

/-- mutual exclusion: at most one thread is between acquisition and release, and it owns the lock -/
theorem C08_mutual_exclusion (sys : Sys σ Op ρ) (hx : ∀ op, sys.mode op = .excl) (s : State σ Op ρ)
    (h : Reach sys s) (t1 t2 : Nat) (h1 : holding (s.pc t1)) (h2 : holding (s.pc t2)) : t1 = t2 := by
  have i := reach_inv sys hx h
  exact Lock.excl.inj ((i.holder t1 h1).symm.trans (i.holder t2 h2))

/-- no deadlock on the lock: whenever a thread waits for the lock, either it can take it now or the
    current holder has an enabled step (towards its deferred unlock) -/
theorem C08_lock_progress (sys : Sys σ Op ρ) (hx : ∀ op, sys.mode op = .excl) (s : State σ Op ρ)
    (h : Reach sys s) (t : Nat) (op : Op) (i : Nat) (hw : s.pc t = .waiting op i) :
    (step sys s (.acq t)).isSome ∨
    ∃ u, (step sys s (.read u)).isSome ∨ (step sys s (.commit u)).isSome ∨ (step sys s (.rel u)).isSome := by
  have inv := reach_inv sys hx h
  cases hl : s.lock with
  | free => left; simp [step, hw, hx, acquire, hl]
  | shared k => exact absurd hl (inv.noShared k)
  | excl u =>
    -- the holder stands at `locked`, `reading` or `applied`: its next atom is enabled
    right; refine ⟨u, ?_⟩
    have ho := inv.owner u hl
    cases hpc : s.pc u <;> simp [hpc, holding] at ho <;> simp [step, hpc]

/-- whatever the driver executes (complete calls `inv; acq; read; commit; rel`, seeded schedules) is a `run`
    from a reachable state, hence reachable: the theorems apply to every state the driver visits -/
theorem C08_driver_runs_reachable (sys : Sys σ Op ρ) (s s' : State σ Op ρ) (acts : List (Act Op))
    (h : Reach sys s) (hr : run sys s acts = some s') : Reach sys s' :=
  let ⟨pre, hp⟩ := h
  ⟨pre ++ acts, by rw [run_append, hp]; exact hr⟩

/-! ### instantiation: the wrapped object is the ideal deque -/

/-- **ConcurrentQueue: FIFO, exactly-once, no phantom.**  In every reachable state the values removed so far
    (in linearization order) followed by the current content are exactly the values offered so far (in
    linearization order): a removal never returns a value that was not offered, never returns one twice,
    and removals come out in the order of the offers. -/
theorem C08_queue_fifo_conservation (s : State (List Int) QOp Ret) (h : Reach queueSys s) :
    okVals (s.lin.map (·.ret)) ++ s.obj = offered (s.lin.map (·.op)) := by
  have hs : seqRun qApply [] (s.lin.map (·.op)) = _ := (reach_inv queueSys queueSys_excl h).seq
  simpa [hs] using queue_conservation (s.lin.map (·.op)) []

/-- once the queue is drained, every offered value has been removed exactly once, in FIFO order -/
theorem C08_queue_drained_exactly_once (s : State (List Int) QOp Ret) (h : Reach queueSys s)
    (hd : s.obj = []) : okVals (s.lin.map (·.ret)) = offered (s.lin.map (·.op)) := by
  have := C08_queue_fifo_conservation s h
  rw [hd] at this; simpa using this

/-- no phantom and at most once (as multiset inequality): every value is removed at most as often as it
    was offered -/
theorem C08_queue_at_most_once (s : State (List Int) QOp Ret) (h : Reach queueSys s) (v : Int) :
    (okVals (s.lin.map (·.ret))).count v ≤ (offered (s.lin.map (·.op))).count v := by
  rw [← C08_queue_fifo_conservation s h, List.count_append]; omega

/-- a removal reports `empty` only if the queue is empty at its linearization point -/
theorem C08_queue_empty_only_if_empty (s : State (List Int) QOp Ret) (h : Reach queueSys s)
    (pre post : List (LinE QOp Ret)) (e : LinE QOp Ret) (hl : s.lin = pre ++ e :: post)
    (he : e.ret = .empty) : (seqRun qApply [] (pre.map (·.op))).1 = [] := by
  have : e.ret = (qApply (seqRun qApply [] (pre.map (·.op))).1 e.op).2 :=
    C08_each_return_is_sequential queueSys queueSys_excl s h pre post e hl
  rw [he] at this
  generalize (seqRun qApply [] (pre.map (·.op))).1 = q at this ⊢
  cases hop : e.op <;> cases q <;> simp [hop, qApply] at this ⊢

/-- **ConcurrentStack: exactly-once, no phantom** (the LIFO discipline itself is clause (1) of
    `C08_linearizable` for `sApply`: each Pop returns the last element of the sequential content) -/
theorem C08_stack_conservation (s : State (List Int) SOp Ret) (h : Reach stackSys s) :
    (okVals (s.lin.map (·.ret)) ++ s.obj).Perm (pushed (s.lin.map (·.op))) := by
  have hs : seqRun sApply [] (s.lin.map (·.op)) = _ := (reach_inv stackSys stackSys_excl h).seq
  simpa [hs] using stack_conservation (s.lin.map (·.op)) []

theorem C08_stack_empty_only_if_empty (s : State (List Int) SOp Ret) (h : Reach stackSys s)
    (pre post : List (LinE SOp Ret)) (e : LinE SOp Ret) (hl : s.lin = pre ++ e :: post)
    (he : e.ret = .empty) : (seqRun sApply [] (pre.map (·.op))).1 = [] := by
  have : e.ret = (sApply (seqRun sApply [] (pre.map (·.op))).1 e.op).2 :=
    C08_each_return_is_sequential stackSys stackSys_excl s h pre post e hl
  rw [he] at this
  generalize (seqRun sApply [] (pre.map (·.op))).1 = q at this ⊢
  cases hop : e.op with
  | push v => simp [hop, sApply] at this
  | pop =>
    cases hq : q.getLast? with
    | none => simpa using hq
    | some a => simp [hop, sApply, hq] at this

/-! ### "over any wrapped queue/stack": a BOUNDED wrapped object (Offer/Put/Push can report full)

    `C08_linearizable`, `C08_real_time_order`, `C08_each_return_is_sequential`, `C08_mutual_exclusion` are generic
    and apply verbatim to `boundedQueueSys cap` / `boundedStackSys cap` (the harness wraps a deliberately
    non-thread-safe ring buffer of capacity `cap` that counts overlapping entries). -/

/-- bounded queue: removed ++ content = the values whose insertion was ACCEPTED, in linearization order (FIFO,
    exactly once, no phantom; a rejected value never appears), and the content never exceeds the capacity -/
theorem C08_bounded_queue_conservation (cap : Nat) (s : State (List Int) QOp Ret) (h : Reach (boundedQueueSys cap) s) :
    okVals (s.lin.map (·.ret)) ++ s.obj = acceptedQ (s.lin.map (·.op)) (s.lin.map (·.ret)) ∧ s.obj.length ≤ cap := by
  have hs : seqRun (qApplyB cap) [] (s.lin.map (·.op)) = _ :=
    (reach_inv (boundedQueueSys cap) (fun _ => rfl) h).seq
  have h1 := bqueue_conservation cap (s.lin.map (·.op)) []
  have h2 := bqueue_bound cap (s.lin.map (·.op)) [] (Nat.zero_le _)
  rw [hs] at h1 h2
  exact ⟨by simpa using h1, h2⟩

/-- an insertion reports `full` only if the bounded queue is full at its linearization point, `empty` only if
    it is empty there -/
theorem C08_bounded_queue_full_only_if_full (cap : Nat) (s : State (List Int) QOp Ret) (h : Reach (boundedQueueSys cap) s)
    (pre post : List (LinE QOp Ret)) (e : LinE QOp Ret) (hl : s.lin = pre ++ e :: post) :
    (e.ret = .full → cap ≤ (seqRun (qApplyB cap) [] (pre.map (·.op))).1.length) ∧
    (e.ret = .empty → (seqRun (qApplyB cap) [] (pre.map (·.op))).1 = []) := by
  have : e.ret = (qApplyB cap (seqRun (qApplyB cap) [] (pre.map (·.op))).1 e.op).2 :=
    C08_each_return_is_sequential (boundedQueueSys cap) (fun _ => rfl) s h pre post e hl
  generalize (seqRun (qApplyB cap) [] (pre.map (·.op))).1 = q at this ⊢
  cases hop : e.op with
  | put v | offer v =>
    by_cases hq : q.length < cap <;> simp [hop, qApplyB, hq] at this <;> simp [this]
    omega
  | take | poll => cases q <;> simp [hop, qApplyB] at this <;> simp [this]

/-- bounded stack: the content never exceeds the capacity (LIFO, exactly-once etc. are clause (1) of
    `C08_linearizable` for `sApplyB cap`) -/
theorem C08_bounded_stack_bound (cap : Nat) (s : State (List Int) SOp Ret) (h : Reach (boundedStackSys cap) s) :
    s.obj.length ≤ cap ∧
    seqRun (sApplyB cap) [] (s.lin.map (·.op)) = (s.obj, s.lin.map (·.ret)) := by
  have hs : seqRun (sApplyB cap) [] (s.lin.map (·.op)) = _ :=
    (reach_inv (boundedStackSys cap) (fun _ => rfl) h).seq
  have h2 := bstack_bound cap (s.lin.map (·.op)) [] (Nat.zero_le _)
  rw [hs] at h2
  exact ⟨h2, hs⟩

/-- non-vacuity: capacity 1, the second Offer reports full, after a Poll there is room again -/
example : (run (boundedQueueSys 1) (initState (boundedQueueSys 1))
      [.inv 0 (.offer 1), .acq 0, .read 0, .commit 0, .rel 0, .inv 1 (.put 2), .acq 1, .read 1, .commit 1, .rel 1,
       .inv 2 .poll, .acq 2, .read 2, .commit 2, .rel 2, .inv 1 (.put 2), .acq 1, .read 1, .commit 1, .rel 1]).map
      (fun s => (s.done.map (·.ret), s.obj)) = some ([.nil, .full, .ok 1, .nil], [2]) := by decide

/-! ### over the POINTER-LEVEL LinkedListQueue (C06 imported, not assumed)

    `llqQueueSys pick` / `llqStackSys pick` are the generic concurrent system with σ := `C06.Q` (the heap of
    doubly linked nodes with first/last/count and the free list), apply := `C06.step` (the statement-by-statement
    model of Offer / Shift / Pop that C06 proves correct), Ret := `C06.Obs` (which HAS `panic` and `hang`), `pick` =
    any behaviour of sync.Pool.Get.  The theorems compose `C08_linearizable` (this file) with `C06_step_refines` /
    `abs_init` (C06): nothing about LinkedListQueue is assumed any more. -/

/-- **ConcurrentQueue over the real LinkedListQueue.**  In every reachable state (any threads, any interleaving):
    (a) the returns in linearization order are exactly the ideal FIFO deque's sequential returns, and the
        linearization order is the lock-acquisition order; every completed call took effect between its
        invocation and response and returned its entry of that run;
    (b) no call returns `panic` (nil dereference) or `hang` (runaway loop), and the heap satisfies C06's
        representation invariant for the ideal content — consistent forward/backward links, `count` = length,
        disjoint zeroed free list — in EVERY reachable state, including while calls are in flight: the wrapped
        structure is never corrupted;
    (c) hence FIFO conservation: removed ++ content = offered. -/
theorem C08_over_linkedListQueue (pick : Nat → Nat) (s : State C06.Q QOp C06.Obs) (h : Reach (llqQueueSys pick) s) :
    s.lin.map (·.ret) = (seqRun qApply [] (s.lin.map (·.op))).2.map obsOfRet ∧
    (s.acqs = s.lin.map (·.t) ∨ ∃ t, precommit (s.pc t) ∧ s.acqs = s.lin.map (·.t) ++ [t]) ∧
    (∀ d ∈ s.done, d.invAt < d.linAt ∧ d.linAt < d.retAt ∧ (⟨d.t, d.op, d.ret, d.linAt⟩ : LinE QOp C06.Obs) ∈ s.lin ∧
      d.ret ≠ .panic ∧ d.ret ≠ .hang) ∧
    (∀ e ∈ s.lin, e.ret ≠ .panic ∧ e.ret ≠ .hang) ∧
    (∃ chain pool, C06.Rep s.obj (seqRun qApply [] (s.lin.map (·.op))).1 chain pool) ∧
    okVals (seqRun qApply [] (s.lin.map (·.op))).2 ++ (seqRun qApply [] (s.lin.map (·.op))).1 = offered (s.lin.map (·.op)) := by
  obtain ⟨a, b, c, d, e⟩ := over_llq llqOpQ qApply spec_q pick s h
  exact ⟨a, b, c, d, e, by simpa using queue_conservation (s.lin.map (·.op)) []⟩

/-- **ConcurrentStack over the real LinkedListQueue** (Push = Offer at the tail, Pop from the tail): the same
    clauses (a)–(c) against the ideal LIFO stack `sApply`, with conservation popped ++ content ~ pushed. -/
theorem C08_over_linkedListQueue_stack (pick : Nat → Nat) (s : State C06.Q SOp C06.Obs) (h : Reach (llqStackSys pick) s) :
    s.lin.map (·.ret) = (seqRun sApply [] (s.lin.map (·.op))).2.map obsOfRet ∧
    (s.acqs = s.lin.map (·.t) ∨ ∃ t, precommit (s.pc t) ∧ s.acqs = s.lin.map (·.t) ++ [t]) ∧
    (∀ d ∈ s.done, d.invAt < d.linAt ∧ d.linAt < d.retAt ∧ (⟨d.t, d.op, d.ret, d.linAt⟩ : LinE SOp C06.Obs) ∈ s.lin ∧
      d.ret ≠ .panic ∧ d.ret ≠ .hang) ∧
    (∀ e ∈ s.lin, e.ret ≠ .panic ∧ e.ret ≠ .hang) ∧
    (∃ chain pool, C06.Rep s.obj (seqRun sApply [] (s.lin.map (·.op))).1 chain pool) ∧
    (okVals (seqRun sApply [] (s.lin.map (·.op))).2 ++ (seqRun sApply [] (s.lin.map (·.op))).1).Perm (pushed (s.lin.map (·.op))) := by
  obtain ⟨a, b, c, d, e⟩ := over_llq llqOpS sApply spec_s pick s h
  exact ⟨a, b, c, d, e, by simpa using stack_conservation (s.lin.map (·.op)) []⟩

/-- non-vacuity: three threads overlap on the pointer-level queue; the heap really is a linked structure (a
    recycled node sits in the free list: `nodeCount = 1`), and the returns are the deque's -/
example : (run (llqQueueSys (fun _ => 0)) (initState (llqQueueSys (fun _ => 0)))
      [.inv 0 (.offer 7), .inv 1 .poll, .inv 2 (.put 8), .acq 1, .read 1, .commit 1, .rel 1,
       .acq 2, .read 2, .commit 2, .rel 2, .acq 0, .read 0, .commit 0, .rel 0,
       .inv 1 .take, .acq 1, .read 1, .commit 1]).map
      (fun s => (s.done.map (·.ret), s.lin.map (·.ret), s.obj.count, s.obj.nodeCount, s.lock)) =
    some ([.empty, .nil, .nil], [.empty, .nil, .nil, .ok 8], 1, 1, .excl 1) := by decide

example : (run (llqStackSys (fun _ => 0)) (initState (llqStackSys (fun _ => 0)))
      [.inv 0 (.push 1), .inv 1 (.push 2), .acq 1, .read 1, .commit 1, .rel 1, .acq 0, .read 0, .commit 0, .rel 0,
       .inv 2 .pop, .acq 2, .read 2, .commit 2, .rel 2]).map (fun s => (s.done.map (·.ret), s.obj.count)) =
    some ([.nil, .nil, .ok 1], 1) := by decide

/-- the clause "no call returns panic" is not vacuous: the same lock protocol over the PRE-FIX LinkedListQueue
    (`C06.stepF false`, all of its methods, C06's refutation history Offer, Offer, Shift, Pop, Shift executed
    call by call under the exclusive lock) does return `panic` -/
example : (run (⟨C06.init, C06.stepF false, fun _ => .excl⟩ : Sys C06.Q C06.Op C06.Obs)
      (initState ⟨C06.init, C06.stepF false, fun _ => .excl⟩)
      [.inv 0 (.offer 1), .acq 0, .read 0, .commit 0, .rel 0, .inv 1 (.offer 2), .acq 1, .read 1, .commit 1, .rel 1,
       .inv 0 .shift, .acq 0, .read 0, .commit 0, .rel 0, .inv 1 .pop, .acq 1, .read 1, .commit 1, .rel 1,
       .inv 2 .shift, .acq 2, .read 2, .commit 2, .rel 2]).map (fun s => s.done.map (·.ret)) =
    some [.nil, .nil, .ok 1, .ok 2, .panic] := by decide

/-! ### the pre-fix code is refuted -/

/-- the schedule: one Offer(1) completes; two consumers enter Poll under RLock together, both read the
    head before either writes it back -/
def rlockWitness : List (Act QOp) :=
  [.inv 0 (.offer 1), .acq 0, .read 0, .commit 0, .rel 0,
   .inv 1 .poll, .inv 2 .poll, .acq 1, .acq 2, .read 1, .read 2, .commit 1, .commit 2, .rel 1, .rel 2]

/-- With `RLock` around Take/Poll (the pinned code) the single offered value is delivered twice. -/
theorem C08_rlock_refutes :
    (run queueSysPinned (initState queueSysPinned) rlockWitness).map (fun s => s.done.map (·.ret))
      = some [.nil, .ok 1, .ok 1] := by decide

/-- ConcurrentStack with `RLock` around Pop (the pinned code): the single pushed value is popped twice. -/
theorem C08_rlock_refutes_stack :
    (run stackSysPinned (initState stackSysPinned)
      [.inv 0 (.push 1), .acq 0, .read 0, .commit 0, .rel 0,
       .inv 1 .pop, .inv 2 .pop, .acq 1, .acq 2, .read 1, .read 2, .commit 1, .commit 2, .rel 1, .rel 2]).map
      (fun s => s.done.map (·.ret)) = some [.nil, .ok 1, .ok 1] := by decide

/-- the same schedule is not even enabled in the repaired system (the second `acq` must wait) -/
example : (run queueSys (initState queueSys) rlockWitness).isNone = true := by decide

/-! ### non-vacuity: a reachable state of `queueSys` with overlapping calls of three threads, one of them
    still inside its critical section, one waiting for the lock -/

def demoSchedule : List (Act QOp) :=
  [.inv 0 (.offer 7), .inv 1 .poll, .inv 2 (.put 8), .acq 1, .read 1, .commit 1, .rel 1,
   .acq 2, .read 2, .commit 2, .rel 2, .inv 1 .take, .acq 1, .read 1, .commit 1]

example : (run queueSys (initState queueSys) demoSchedule).map
      (fun s => (s.done.map (·.ret), s.lin.map (·.ret), s.obj, s.lock)) =
    some ([.empty, .nil], [.empty, .nil, .ok 8], [], .excl 1) := by decide

example : (run stackSys (initState stackSys)
      [.inv 0 (.push 1), .inv 1 (.push 2), .acq 1, .read 1, .commit 1, .rel 1, .acq 0, .read 0, .commit 0, .rel 0,
       .inv 2 .pop, .acq 2, .read 2, .commit 2, .rel 2]).map (fun s => (s.done.map (·.ret), s.obj)) =
    some ([.nil, .nil, .ok 1], [2]) := by decide

/-! ### closing theorems over data regenerated from queue.go on every run -/

/-- a method body is exactly: take the write lock; defer its release; return the delegated call -/
def exclusiveDeferred (m : Gen.LockMode) (field : String) : Bool :=
  m.stmts == ["acquire:lock.Lock", "defer:lock.Unlock", s!"return:{field}.{m.method}({m.params})"]

/-- the table covers exactly the six wrapper methods -/
theorem C08_modes_inventory :
    Gen.lockModes.map (fun m => (m.type, m.method)) =
      [("ConcurrentQueue", "Offer"), ("ConcurrentQueue", "Poll"), ("ConcurrentQueue", "Put"),
       ("ConcurrentQueue", "Take"), ("ConcurrentStack", "Pop"), ("ConcurrentStack", "Push")] := rfl

/-- every method of ConcurrentQueue / ConcurrentStack (all of them delegate to a mutating method of the
    wrapped Queue / Stack) takes `lock.Lock()`, releases it by `defer lock.Unlock()`, and returns the
    like-named method of the wrapped object applied to its own parameters — i.e. the code has the
    `acq ; apply ; rel` shape with `mode = excl` that `C08_linearizable` assumes (`queueSys`, `stackSys`). -/
theorem C08_modes :
    ∀ m ∈ Gen.lockModes,
      exclusiveDeferred m (if m.type = "ConcurrentQueue" then "queue" else "stack") = true := by decide +kernel

theorem C08_skel_queue_put : Gen.skeletonOf "ConcurrentQueue.Put" =
    some "call(lock.Lock) defer{call(lock.Unlock)} call(queue.Put) return" := wrapper_skeletons.1
theorem C08_skel_queue_offer : Gen.skeletonOf "ConcurrentQueue.Offer" =
    some "call(lock.Lock) defer{call(lock.Unlock)} call(queue.Offer) return" := wrapper_skeletons.2.1
theorem C08_skel_queue_take : Gen.skeletonOf "ConcurrentQueue.Take" =
    some "call(lock.Lock) defer{call(lock.Unlock)} call(queue.Take) return" := wrapper_skeletons.2.2.1
theorem C08_skel_queue_poll : Gen.skeletonOf "ConcurrentQueue.Poll" =
    some "call(lock.Lock) defer{call(lock.Unlock)} call(queue.Poll) return" := wrapper_skeletons.2.2.2.1
theorem C08_skel_stack_push : Gen.skeletonOf "ConcurrentStack.Push" =
    some "call(lock.Lock) defer{call(lock.Unlock)} call(stack.Push) return" := wrapper_skeletons.2.2.2.2.1
theorem C08_skel_stack_pop : Gen.skeletonOf "ConcurrentStack.Pop" =
    some "call(lock.Lock) defer{call(lock.Unlock)} call(stack.Pop) return" := wrapper_skeletons.2.2.2.2.2

end FpgoVerif.C08
