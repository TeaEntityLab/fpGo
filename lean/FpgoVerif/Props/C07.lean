import FpgoVerif.Proofs.C07Drain
import FpgoVerif.Proofs.C07ChqInv
import FpgoVerif.Proofs.C07Tables
/-! Property theorems for C07 — Channel/Buffered queues: bounded, FIFO, exactly-once delivery, nothing stranded.
    `step`, `run`, `Reach`, `count`, `chTrySend`, `chTryRecv` are the definitions the driver executes.
    All theorems hold for every channelCapacity `c`, every bufferSizeMaximum `b` (including 0 and 1), any number
    of producers and consumers, any interleaving with the loader, any number of steps. -/
namespace FpgoVerif.C07

/-- **FIFO, exactly once, nothing invented, nothing lost.**  In every reachable state the values delivered so
    far, followed by the channel buffer, the loader's in-flight value and the overflow pool, are exactly the
    values accepted so far (Offer/Put returned nil), in acceptance order. -/
theorem C07_fifo (c b : Nat) (s : St) (h : Reach c b s) :
    s.delivered ++ s.chan ++ optl s.inflight ++ s.pool = s.accepted :=
  (reach_inv h).fifo

/-- consequence: the delivery sequence is a prefix of the acceptance sequence — every delivered value was
    accepted (no invention), is delivered once per acceptance (no duplication), in acceptance order (FIFO
    globally, hence per producer), and every accepted value not yet delivered is still held (nothing lost). -/
theorem C07_delivered_prefix (c b : Nat) (s : St) (h : Reach c b s) :
    s.delivered <+: s.accepted ∧ s.accepted.length = s.delivered.length + s.chan.length + (optl s.inflight).length + s.pool.length := by
  have hf := C07_fifo c b s h
  exact ⟨⟨s.chan ++ optl s.inflight ++ s.pool, by simp [← hf]⟩, by simp [← hf]; omega⟩

/-- per-producer order: the values of any one producer (any predicate on values) come out in the order they
    were accepted -/
theorem C07_per_producer_fifo (c b : Nat) (s : St) (h : Reach c b s) (mine : Nat → Bool) :
    s.delivered.filter mine <+: s.accepted.filter mine := by
  obtain ⟨t, ht⟩ := (C07_delivered_prefix c b s h).1
  exact ⟨t.filter mine, by rw [← ht, List.filter_append]⟩

/-- **Bounds.**  The channel never holds more than `c`, pool plus in-flight never more than `b`; so the queue
    never holds more than `c + b` values. -/
theorem C07_bound (c b : Nat) (s : St) (h : Reach c b s) :
    s.chan.length ≤ c ∧ s.pool.length + (optl s.inflight).length ≤ b ∧
    s.accepted.length - s.delivered.length ≤ c + b := by
  have i := reach_inv h
  have hl := (C07_delivered_prefix c b s h).2
  have := i.chanB; have := i.poolB
  omega

/-- **Offer fails only with ErrQueueIsFull, and only with the overflow buffer at its maximum** (and, when the
    pool was seen empty, only after the channel try-send failed: buffer full, no receiver to hand over to). -/
theorem C07_offer_full_only_at_max (c b : Nat) (s s' : St) (h : Reach c b s) (v : Nat)
    (hs : step s (.offerFull v) = some s') :
    s.pool.length = b ∧ (s.pool = [] → c ≤ s.chan.length) ∧
    s'.accepted = s.accepted ∧ s'.chan = s.chan ∧ s'.pool = s.pool := by
  have i := reach_inv h
  simp only [step] at hs
  split at hs <;> cases hs
  rename_i hg
  have := i.poolB; have := i.bmax
  refine ⟨by omega, fun hp => ?_, rfl, rfl, rfl⟩
  rcases hg.1 with h1 | h1
  · -- the pool was seen non-empty under the lock, and nobody else can have changed it
    exact absurd hp (i.sawNonEmpty v h1)
  · have := h1.2.1; have := i.cap; omega

/-- **Offer never blocks**: once it holds the lock at least one of its four outcomes is enabled -/
theorem C07_offer_total (s : St) (v : Nat) (e : Bool) (hl : s.lock = .producer v e) :
    (step s (.offerChan v)).isSome ∨ (step s (.offerHandoff v)).isSome ∨
    (step s (.offerFull v)).isSome ∨ (step s (.offerPool v)).isSome := by
  -- without a (successful) try-send the bound check decides between Full and the pool
  have bound : (s.lock = .producer v false ∨ (s.lock = .producer v true ∧ trySendFails s)) →
      (step s (.offerFull v)).isSome ∨ (step s (.offerPool v)).isSome := fun g => by
    by_cases hb : s.b ≤ s.pool.length
    · left; simp [step, g, hb]
    · right; simp [step, g]; omega
  cases e with
  | false => exact .inr (.inr (bound (.inl hl)))
  | true =>
    rcases trySend_cases s with hc | hh | hf
    · left; simp [step, hl, hc]
    · right; left; simp [step, hl, hh]
    · exact .inr (.inr (bound (.inr ⟨hl, hf⟩)))

/-- **Poll never blocks and reports ErrQueueIsEmpty only when nothing is immediately available** -/
theorem C07_poll_total_and_empty_only_if_empty (s : St) :
    ((step s .tryRecv).isSome ∨ (step s .pollEmpty).isSome) ∧
    (∀ s', step s .pollEmpty = some s' → s.chan = [] ∧ s' = s) := by
  constructor
  · cases hc : s.chan with
    | nil => right; simp [step, hc]
    | cons x r => left; simp [step, hc]
  · intro s' h
    simp only [step] at h
    split at h <;> cases h
    exact ⟨‹_›, rfl⟩

/-- **TakeWithTimeout: a timeout never costs a value.**  The timeout branch of the select is enabled whenever a
    consumer waits (time is nondeterminism: also while a value is available or is being handed over); it consumes
    the waiter and nothing else, and the state it leaves is again reachable — so the conservation law holds after
    it and the value that raced with the timeout is still the next one delivered.  (That the waiter is consumed
    EITHER by `recvTake`/a handoff OR by `recvTimeout` is the atomicity of Go's `select`; the first four
    conjuncts restate the atom and are listed for the reader, the last two are the content.) -/
theorem C07_timeout_loses_nothing (c b : Nat) (s s' : St) (h : Reach c b s) (hs : step s .recvTimeout = some s') :
    s'.chan = s.chan ∧ s'.pool = s.pool ∧ s'.accepted = s.accepted ∧ s'.delivered = s.delivered ∧
    Reach c b s' ∧ s'.delivered ++ s'.chan ++ optl s'.inflight ++ s'.pool = s'.accepted := by
  have hr : Reach c b s' := reach_step h hs
  have hf := C07_fifo c b s' hr
  simp only [step] at hs
  split at hs <;> cases hs
  exact ⟨rfl, rfl, rfl, rfl, hr, hf⟩

/-- **Count at quiescence**: with no Offer and no loader pass in progress, `Count()` (= len(channel) +
    pool.Count()) equals accepted minus delivered -/
theorem C07_count (c b : Nat) (s : St) (h : Reach c b s) (hq : s.lock = .free) :
    count s = s.accepted.length - s.delivered.length := by
  have hin := (reach_inv h).inflight_none (by simp [hq])
  have := (C07_delivered_prefix c b s h).2
  simp [hin] at this
  simp [count]; omega

/-! ### nothing stranded (channelCapacity ≥ 1), phrased per call

    Every Take / TakeWithTimeout / Poll / GetChannel starts with `notify`; a posted token is never lost
    (`C07_token_persists`) and wakes the loader (`loaderWake` is enabled whenever token ∧ waiting); the pass
    that follows moves the OLDEST pooled value into the channel whenever the channel has room
    (`C07_pass_moves_head`), so after the pass triggered by a call on an empty channel the channel is
    non-empty (`C07_progress`) and the next receive delivers exactly the next value in acceptance order
    (`C07_fifo`).  Hence repeated Take/Poll calls retrieve every accepted value without any further Offer.
    (Fairness of the Go scheduler — the loader goroutine eventually runs — is an assumption, not a theorem.) -/

/-- a pending wake-up is consumed only by the loader -/
theorem C07_token_persists (s s' : St) (a : Act) (h : step s a = some s') (ht : s.token = true)
    (ha : a ≠ .loaderWake) : s'.token = true := by
  -- `notify` and `offerPool` post a token, `loaderWake` is excluded, no other action writes the field
  cases a <;> dsimp only [step] at h <;> (repeat' split at h) <;> cases h <;>
    first | exact ht | rfl | exact absurd rfl ha

/-- inside a pass with room in the channel: `pool.Poll()` then the try-send move the head of the pool to
    the tail of the channel -/
theorem C07_pass_moves_head (s : St) (x : Nat) (rest : List Nat) (hl : s.lock = .loader)
    (hin : s.inflight = none) (hp : s.pool = x :: rest) (hroom : s.chan.length < s.c) :
    run s [.loaderPoll, .loaderSend] = some { s with chan := s.chan ++ [x], pool := rest } := by
  simp [run, step, hl, hin, hp, hroom]

/-- the call-triggered pass refills an empty channel from a non-empty pool -/
theorem C07_progress (c b : Nat) (s : St) (h : Reach c b s) (hc : 1 ≤ c) (hl : s.lock = .free)
    (hw : s.lpc = .waiting) (hch : s.chan = []) (x : Nat) (rest : List Nat) (hp : s.pool = x :: rest) :
    ∃ s', run s [.notify, .loaderWake, .loaderLock, .loaderPoll, .loaderSend] = some s' ∧
      s'.chan = [x] ∧ s'.pool = rest ∧ s'.accepted = s.accepted ∧ s'.delivered = s.delivered ∧
      (step s' .tryRecv).map (·.delivered) = some (s.delivered ++ [x]) := by
  have i := reach_inv h
  have hin := i.inflight_none (by simp [hl])
  have hcc : 0 < s.c := i.cap ▸ hc
  refine ⟨_, by simp [run, step, hl, hw, hch, hp, hin, hcc]; rfl, ?_⟩
  simp [step]

/-- the same when the loader already holds a token (it stands before `Lock`) -/
theorem C07_progress_woke (c b : Nat) (s : St) (h : Reach c b s) (hc : 1 ≤ c) (hl : s.lock = .free)
    (hw : s.lpc = .woke) (hch : s.chan = []) (x : Nat) (rest : List Nat) (hp : s.pool = x :: rest) :
    ∃ s', run s [.loaderLock, .loaderPoll, .loaderSend] = some s' ∧ s'.chan = [x] ∧ s'.pool = rest := by
  have i := reach_inv h
  have hin := i.inflight_none (by simp [hl])
  have hcc : 0 < s.c := i.cap ▸ hc
  exact ⟨_, by simp [run, step, hl, hw, hch, hp, hin, hcc]; rfl, by simp, rfl⟩

/-- a loader pass started under the lock runs to completion when c ≥ 1 or nobody is blocked in a receive: by buffered
    sends, ending in `loaderDone` or `loaderUnshift`, consuming no waiter.  It leaves `delivered`/`accepted` untouched
    and the channel non-empty if it was non-empty, or if there was anything to move and c ≥ 1 -/
theorem C07_pass_terminates (s : St) (hl : s.lock = .loader) (hw : s.waiters = 0 ∨ 0 < s.c) :
    ∃ acts s', acts.all noOffer = true ∧ run s acts = some s' ∧ s'.lock = .free ∧ s'.lpc = .waiting ∧
      s'.delivered = s.delivered ∧ s'.accepted = s.accepted ∧
      ((s.chan ≠ [] ∨ ((s.inflight ≠ none ∨ s.pool ≠ []) ∧ 0 < s.c)) → s'.chan ≠ []) :=
  pass_finishes _ s (Nat.lt_succ_self _) hl hw

/-- **Nothing stranded, whole queue (c ≥ 1).**  From every reachable quiescent state (no Offer in progress, no
    pass in progress; ANY number of consumers may be blocked in a receive) there is a continuation consisting only of Poll atoms (`notify`,
    `tryRecv`) and loader atoms — no further Offer — after which every accepted value has been delivered; by
    `C07_fifo` in acceptance order.  (Existence of the schedule = what repeated Poll calls and the passes they
    trigger do under a fair scheduler; fairness itself is an assumption.) -/
theorem C07_drain (c b : Nat) (s : St) (h : Reach c b s) (hc : 1 ≤ c) (hl : s.lock = .free)
    (hp : s.lpc ≠ .inpass) :
    ∃ acts s', acts.all noOffer = true ∧ run s acts = some s' ∧ s'.delivered = s.accepted ∧
      s'.accepted = s.accepted ∧ Reach c b s' := by
  obtain ⟨acts, s', ha, hr, hd, hacc⟩ := drain hc _ s (reach_inv h) hl hp (Nat.lt_succ_self _)
  exact ⟨acts, s', ha, hr, hd, hacc, reach_run h hr⟩

/-- how long the lock can be held: pool.Poll() / try-send strictly decrease this measure … -/
def holdMeasure (s : St) : Nat := passMeasure s

/-- … every other action of a lock holder releases the lock; so a pass takes at most 2·|pool|+1 atoms and an
    Offer one atom after `Lock`: Offer, notifyWorkers (Poll/Take/GetChannel) and Count wait for the lock only
    boundedly -/
theorem C07_lock_hold_bounded (s s' : St) (a : Act) (h : step s a = some s') (hl : s.lock ≠ .free)
    (ha : a ≠ .recvWait ∧ a ≠ .recvTake ∧ a ≠ .recvTimeout ∧ a ≠ .tryRecv ∧ a ≠ .pollEmpty ∧ a ≠ .loaderWake) :
    s'.lock = .free ∨ (s'.lock = s.lock ∧ holdMeasure s' < holdMeasure s) := by
  -- every action of a lock holder releases the lock, except `loaderPoll` (pool −1, in flight +1) and
  -- `loaderSend` / `loaderHandoff` (in flight −1), which lower the measure 2·|pool| + |in flight|
  cases a <;> dsimp only [step] at h <;> (repeat' split at h) <;> cases h <;>
    first
    | exact .inl rfl
    | (simp_all [holdMeasure, passMeasure] <;> omega)

/-- no deadlock under the lock: whoever holds it has an enabled atom -/
theorem C07_lock_holder_enabled (c b : Nat) (s : St) (h : Reach c b s) (hl : s.lock ≠ .free) :
    ∃ a, (step s a).isSome ∧ a ≠ .recvWait ∧ a ≠ .recvTake ∧ a ≠ .recvTimeout ∧ a ≠ .tryRecv ∧ a ≠ .pollEmpty ∧ a ≠ .loaderWake ∧
      a ≠ .notify := by
  cases hk : s.lock with
  | free => exact absurd hk hl
  | producer v e =>
    rcases C07_offer_total s v e hk with h1 | h1 | h1 | h1 <;> exact ⟨_, h1, by simp⟩
  | loader =>
    cases hin : s.inflight with
    | none =>
      cases hp : s.pool with
      | nil => exact ⟨.loaderDone, by simp [step, hk, hin, hp], by simp⟩
      | cons x r => exact ⟨.loaderPoll, by simp [step, hk, hin, hp], by simp⟩
    | some x =>
      rcases trySend_cases s with hc | hh | hf
      · exact ⟨.loaderSend, by simp [step, hk, hin, hc], by simp⟩
      · exact ⟨.loaderHandoff, by simp [step, hk, hin, hh], by simp⟩
      · exact ⟨.loaderUnshift, by simp [step, hk, hin, hf], by simp⟩

/-- the composite calls the driver performs in directed schedules (`Offer`, `Poll`, the loader wake-up and the
    loader's advance to its next park point) are sequences of `step`s: they never leave the reachable states, so
    every theorem above applies to every state the driver visits -/
theorem C07_driver_ops_reachable (c b : Nat) (s : St) (h : Reach c b s) (v : Nat) :
    Reach c b (offerCall s v).1 ∧ Reach c b (pollCall s).1 ∧ Reach c b (syncLoader s) ∧
    Reach c b (loaderNext s).1 ∧ ∀ a, Reach c b (stepD s a) := by
  refine ⟨?_, ?_, ?_, ?_, fun a => reach_stepD a h⟩
  · unfold offerCall
    split
    · exact h
    · next s1 h0 =>
      have r1 := reach_step h h0
      repeat' split
      all_goals first | exact r1 | exact reach_step r1 ‹_›
  · unfold pollCall
    dsimp only
    split <;> exact reach_stepD _ (reach_stepD _ h)
  · unfold syncLoader
    split
    · exact reach_stepD _ (reach_stepD _ h)
    · exact h
  · unfold loaderNext
    split <;> exact reach_stepD _ h

/-! ### ChannelQueue's own wrappers (the channel substrate) -/

/-- try-send: appended at the tail iff there is room; the buffer never exceeds the capacity -/
theorem C07_chq_offer (ch : Ch) (v : Nat) (hb : ch.buf.length ≤ ch.cap) :
    ((chTrySend ch v).2 = true → (chTrySend ch v).1.buf = ch.buf ++ [v]) ∧
    ((chTrySend ch v).2 = false → (chTrySend ch v).1 = ch ∧ ch.buf.length = ch.cap) ∧
    (chTrySend ch v).1.buf.length ≤ (chTrySend ch v).1.cap := by
  unfold chTrySend
  split <;> simp <;> omega

/-- try-receive: the head of the buffer, FIFO; `empty` only when nothing is buffered; **Poll on a closed,
    drained ChannelQueue reports closed and invents no value** (fix 1a3cb23) -/
theorem C07_chq_poll (ch : Ch) :
    (∀ v ch', chTryRecv ch = (ch', .val v) → ch.buf = v :: ch'.buf) ∧
    ((chTryRecv ch).2 = .empty → ch.buf = [] ∧ ch.closed = false) ∧
    (ch.buf = [] → ch.closed = true → chTryRecv ch = (ch, .closed)) := by
  unfold chTryRecv
  cases hb : ch.buf with
  | nil => cases hc : ch.closed <;> simp
  | cons x r => simp

/-! ### ChannelQueue on its own under concurrent goroutines (`Model/C07Chq.lean`)

    A transition system over a Go channel of capacity `c` (rendezvous for c = 0) with parked senders
    (Put / PutWithTimeout) and parked receivers (Take / TakeWithTimeout), try-operations (Offer / Poll) and
    timeouts as nondeterministic steps; any number of threads, any interleaving, every c. -/

/-- **exactly once, FIFO in acceptance order, nothing invented, nothing lost**: delivered ++ buffer = accepted
    (a value handed over directly is accepted and delivered in the same atom; a parked sender's value is not
    accepted until its send completes) -/
theorem C07_chq_conc_fifo (c : Nat) (s : Chq.CS) (h : Chq.Reach c s) :
    s.delivered ++ s.buf = s.accepted ∧ s.delivered <+: s.accepted :=
  let i := Chq.reach_inv h
  ⟨i.fifo, ⟨s.buf, i.fifo⟩⟩

/-- the buffer never exceeds the capacity; senders are parked only while it is full, receivers only while
    nothing at all is available -/
theorem C07_chq_conc_bound (c : Nat) (s : Chq.CS) (h : Chq.Reach c s) :
    s.buf.length ≤ c ∧ (s.sendq ≠ [] → s.buf.length = c) ∧ (0 < s.recvWaiting → s.buf = [] ∧ s.sendq = []) := by
  have i := Chq.reach_inv h
  exact ⟨i.bound, fun hq => Nat.le_antisymm i.bound (i.blockedFull hq), i.waitEmpty⟩

/-- **Offer returns ErrQueueIsFull only when the buffer is full and no receiver is waiting** (so for c = 0: only
    when there is nobody to rendezvous with), and changes nothing -/
theorem C07_chq_conc_offer_full (c : Nat) (s s' : Chq.CS) (h : Chq.Reach c s) (v : Nat)
    (hs : Chq.step s (.offerFull v) = some s') : s.buf.length = c ∧ s.recvWaiting = 0 ∧ s' = s := by
  have i := Chq.reach_inv h
  simp only [Chq.step] at hs
  split at hs <;> cases hs
  rename_i hg
  exact ⟨Nat.le_antisymm i.bound (i.cap ▸ hg.1), hg.2, rfl⟩

/-- **Poll returns ErrQueueIsEmpty only when nothing is buffered and no sender is offering**, and changes nothing -/
theorem C07_chq_conc_poll_empty (s s' : Chq.CS) (hs : Chq.step s .pollEmpty = some s') :
    s.buf = [] ∧ s.sendq = [] ∧ s' = s := by
  simp only [Chq.step] at hs
  split at hs <;> cases hs
  exact ⟨‹_ ∧ _›.1, ‹_ ∧ _›.2, rfl⟩

/-- **the timeout branches move no value**: a PutWithTimeout that times out was never accepted and leaves buffer
    and histories untouched (its value just leaves the queue of parked senders); likewise TakeWithTimeout -/
theorem C07_chq_conc_timeouts_move_nothing (s s' : Chq.CS) (v : Nat)
    (hs : Chq.step s (.putTimeout v) = some s' ∨ Chq.step s .takeTimeout = some s') :
    s'.buf = s.buf ∧ s'.accepted = s.accepted ∧ s'.delivered = s.delivered := by
  rcases hs with hs | hs <;> simp only [Chq.step] at hs <;> split at hs <;> cases hs <;> exact ⟨rfl, rfl, rfl⟩

/-- no wrapper call is ever without an enabled atom: a blocking send buffers, hands over or parks; Offer buffers,
    hands over or reports full; a blocking receive takes or parks; Poll takes or reports empty -/
theorem C07_chq_conc_total (c : Nat) (s : Chq.CS) (h : Chq.Reach c s) (v : Nat) :
    ((Chq.step s (.sendBuf v)).isSome ∨ (Chq.step s (.sendHandoff v)).isSome ∨ (Chq.step s (.sendBlock v)).isSome) ∧
    ((Chq.step s (.sendBuf v)).isSome ∨ (Chq.step s (.sendHandoff v)).isSome ∨ (Chq.step s (.offerFull v)).isSome) ∧
    ((Chq.step s .recvBuf).isSome ∨ (Chq.step s .recvFromSender).isSome ∨ (Chq.step s .recvWait).isSome) ∧
    ((Chq.step s .recvBuf).isSome ∨ (Chq.step s .recvFromSender).isSome ∨ (Chq.step s .pollEmpty).isSome) := by
  -- the third alternative is the guard shared by `sendBlock` and `offerFull`
  have hsend : (Chq.step s (.sendBuf v)).isSome ∨ (Chq.step s (.sendHandoff v)).isSome ∨
      (s.c ≤ s.buf.length ∧ s.recvWaiting = 0) := by
    by_cases hw : 0 < s.recvWaiting
    · right; left; simp [Chq.step, hw]
    · by_cases hr : s.buf.length < s.c
      · left; simp [Chq.step, hr]; omega
      · right; right; omega
  -- likewise the guard shared by `recvWait` and `pollEmpty`
  have hrecv : (Chq.step s .recvBuf).isSome ∨ (Chq.step s .recvFromSender).isSome ∨ (s.buf = [] ∧ s.sendq = []) := by
    cases hb : s.buf with
    | cons x r => left; cases hq : s.sendq <;> simp [Chq.step, hb, hq]
    | nil =>
      cases hq : s.sendq with
      | cons w ws => right; left; simp [Chq.step, hb, hq]
      | nil => right; right; exact ⟨rfl, rfl⟩
  exact ⟨hsend.imp_right (.imp_right fun hg => by simp [Chq.step, hg]),
    hsend.imp_right (.imp_right fun hg => by simp [Chq.step, hg]),
    hrecv.imp_right (.imp_right fun hg => by simp [Chq.step, hg]),
    hrecv.imp_right (.imp_right fun hg => by simp [Chq.step, hg])⟩

/-- what the `chqstress` cases expect (`ok accepted=N delivered=N`): in every quiescent reachable state — nothing
    buffered, nobody parked in a send — everything accepted has been delivered, in acceptance order -/
theorem C07_chq_conc_quiescent (c : Nat) (s : Chq.CS) (h : Chq.Reach c s) (hb : s.buf = []) :
    s.delivered = s.accepted := by
  simpa [hb] using (Chq.reach_inv h).fifo

/-- the sequential substrate the driver executes (`chTrySend` / `chTryRecv` on `Ch`, open channel) is this
    system with nobody parked: a successful try-send is `sendBuf`, a failed one is exactly `offerFull`, a
    try-receive of a value is `recvBuf`, `empty` is exactly `pollEmpty` -/
theorem C07_chq_conc_matches_substrate (ch : Ch) (acc del : List Nat) (v : Nat) :
    (Chq.step ⟨ch.cap, ch.buf, [], 0, acc, del⟩ (.sendBuf v) =
      if (chTrySend ch v).2 then some ⟨ch.cap, (chTrySend ch v).1.buf, [], 0, acc ++ [v], del⟩ else none) ∧
    ((chTrySend ch v).2 = false ↔ (Chq.step ⟨ch.cap, ch.buf, [], 0, acc, del⟩ (.offerFull v)).isSome) ∧
    (∀ ch' x, chTryRecv ch = (ch', .val x) →
      Chq.step ⟨ch.cap, ch.buf, [], 0, acc, del⟩ .recvBuf = some ⟨ch.cap, ch'.buf, [], 0, acc, del ++ [x]⟩) ∧
    (ch.buf = [] ↔ (Chq.step ⟨ch.cap, ch.buf, [], 0, acc, del⟩ .pollEmpty).isSome) := by
  refine ⟨?_, ?_, ?_, ?_⟩
  · unfold chTrySend; by_cases hr : ch.buf.length < ch.cap <;> simp [Chq.step, hr]
  · unfold chTrySend; by_cases hr : ch.buf.length < ch.cap <;> simp [Chq.step, hr] <;> omega
  · intro ch' x hx
    simp [Chq.step, (C07_chq_poll ch).1 x ch' hx]
  · simp [Chq.step]

/-- non-vacuity: c = 1 — a buffered value, a parked sender completing into the freed slot, a parked receiver
    served by a hand-over, a timed-out PutWithTimeout that leaves no trace -/
example : Chq.run (Chq.init 1) [.sendBuf 1, .sendBlock 2, .sendBlock 3, .putTimeout 3, .recvBuf, .recvBuf, .recvWait,
      .sendHandoff 4] = some ⟨1, [], [], 0, [1, 2, 4], [1, 2, 4]⟩ := by decide
/-- rendezvous (c = 0) in both orders, and Offer / Poll failing with nobody on the other side -/
example : Chq.run (Chq.init 0) [.offerFull 9, .pollEmpty, .sendBlock 1, .recvFromSender, .recvWait, .sendHandoff 2,
      .recvWait, .takeTimeout] = some ⟨0, [], [], 0, [1, 2], [1, 2]⟩ := by decide
example : ∃ s, Chq.Reach 1 s ∧ s.sendq ≠ [] ∧ s.buf.length = 1 :=
  ⟨⟨1, [1], [2], 0, [1], []⟩, ⟨[.sendBuf 1, .sendBlock 2], by decide⟩, by decide, rfl⟩

/-! ### non-vacuity: reachable states with a full channel, a non-empty pool, an in-flight value -/

def demo : List Act :=
  [.offerLock 1, .offerChan 1, .offerLock 2, .offerPool 2, .offerLock 3, .offerPool 3,
   .loaderWake, .loaderLock, .loaderPoll, .tryRecv, .loaderSend, .loaderPoll]

example : run (init 1 2) demo = some ⟨1, 2, [2], [], some 3, false, .loader, .inpass, 0, [1, 2, 3], [1]⟩ := by decide

example : ∃ s, Reach 1 2 s ∧ s.lock ≠ .free :=
  ⟨⟨1, 2, [2], [], some 3, false, .loader, .inpass, 0, [1, 2, 3], [1]⟩, ⟨demo, by decide⟩, by decide⟩

/-- Offer returns Full in a reachable state: c = 1, b = 1, two values held -/
example : (run (init 1 1) [.offerLock 1, .offerChan 1, .offerLock 2, .offerPool 2, .offerLock 3, .offerFull 3]).isSome = true := by
  decide

/-- rendezvous with an unbuffered channel (c = 0): a waiting consumer gets the value directly -/
example : run (init 0 1) [.notify, .recvWait, .offerLock 7, .offerHandoff 7] =
    some ⟨0, 1, [], [], none, true, .free, .waiting, 0, [7], [7]⟩ := by decide

/-- the stranding state of the DESIGN analysis is reachable and legal: pool non-empty, channel empty, no token,
    loader asleep — the next Take/Poll posts a token (`C07_progress`) -/
example : run (init 1 1) [.offerLock 1, .offerChan 1, .offerLock 2, .offerPool 2, .loaderWake, .loaderLock,
      .loaderPoll, .loaderUnshift, .tryRecv] =
    some ⟨1, 1, [], [2], none, false, .free, .waiting, 0, [1, 2], [1]⟩ := by decide

/-- observation (not a violation of the property as stated): a consumer already blocked in `Take` (waiters = 1)
    while the loader's pass found the channel full is not served until the NEXT Take/Poll/GetChannel call by
    anyone posts a token — pool non-empty, channel empty, no token, loader asleep, lock free.  The state satisfies
    the hypotheses of `C07_drain` (lock free, no pass in progress, c = 1; one consumer blocked): a further Poll by
    anyone drains it -/
example : run (init 1 1) [.offerLock 1, .offerChan 1, .offerLock 2, .offerPool 2, .notify, .recvWait, .notify, .recvWait,
      .loaderWake, .loaderLock, .loaderPoll, .loaderUnshift, .recvTake] =
    some ⟨1, 1, [], [2], none, false, .free, .waiting, 1, [1, 2], [1]⟩ := by decide

/-! ### closing theorems over data regenerated from queue.go on every run -/

theorem C07_skel_offer : Gen.skeletonOf "BufferedChannelQueue.Offer" = some
    "call(lock.Lock) defer{call(lock.Unlock)} if[get(isClosed) call(isClosed.Get)]{return} get(pool) call(pool.Count) if[]{call(blockingQueue.Offer) if[]{return}else{if[]{}else{return}}} if[]{return} get(pool) call(pool.Offer) call(loadWorkerCh.Offer) return" := bcq_call_skeletons.1
theorem C07_skel_put : Gen.skeletonOf "BufferedChannelQueue.Put" = some "call(Offer) return" := bcq_call_skeletons.2.1
theorem C07_skel_take : Gen.skeletonOf "BufferedChannelQueue.Take" = some
    "if[get(isClosed) call(isClosed.Get)]{return} call(notifyWorkers) call(blockingQueue.Take) return" := bcq_call_skeletons.2.2.1
theorem C07_skel_takeWithTimeout : Gen.skeletonOf "BufferedChannelQueue.TakeWithTimeout" = some
    "if[get(isClosed) call(isClosed.Get)]{return} call(notifyWorkers) call(blockingQueue.TakeWithTimeout) return" := bcq_call_skeletons.2.2.2.1
theorem C07_skel_poll : Gen.skeletonOf "BufferedChannelQueue.Poll" = some
    "if[get(isClosed) call(isClosed.Get)]{return} call(notifyWorkers) call(blockingQueue.Poll) return" := bcq_call_skeletons.2.2.2.2.1
theorem C07_skel_getChannel : Gen.skeletonOf "BufferedChannelQueue.GetChannel" = some
    "call(notifyWorkers) return" := bcq_call_skeletons.2.2.2.2.2.1
theorem C07_skel_count : Gen.skeletonOf "BufferedChannelQueue.Count" = some
    "if[get(isClosed) call(isClosed.Get)]{return} call(lock.RLock) defer{call(lock.RUnlock)} get(pool) call(pool.Count) return" := bcq_call_skeletons.2.2.2.2.2.2
theorem C07_skel_notifyWorkers : Gen.skeletonOf "BufferedChannelQueue.notifyWorkers" = some
    "call(lock.RLock) defer{call(lock.RUnlock)} if[get(isClosed) call(isClosed.Get)]{return} call(loadWorkerCh.Offer) call(freeNodeWorkerCh.Offer)" := bcq_worker_skeletons.1
theorem C07_skel_loadFromPool : Gen.skeletonOf "BufferedChannelQueue.loadFromPool" = some
    "rangech(loadWorkerCh){if[get(isClosed) call(isClosed.Get)]{break} call(lock.Lock) if[get(isClosed) call(isClosed.Get)]{call(lock.Unlock) break} for[get(pool) call(pool.Count)]{get(pool) call(pool.Poll) if[]{break} call(blockingQueue.Offer) if[]{get(pool) call(pool.Unshift) break}} call(lock.Unlock) call(Sleep)}" := bcq_worker_skeletons.2.1
theorem C07_skel_freeNodePool : Gen.skeletonOf "BufferedChannelQueue.freeNodePool" = some
    "rangech(freeNodeWorkerCh){call(Sleep) if[get(isClosed) call(isClosed.Get)]{break} call(lock.Lock) if[get(pool)]{get(pool) call(pool.KeepNodePoolCount)} call(lock.Unlock)}" := bcq_worker_skeletons.2.2.1
theorem C07_skel_close : Gen.skeletonOf "BufferedChannelQueue.Close" = some
    "call(lock.Lock) defer{call(lock.Unlock)} get(isClosed) call(isClosed.Set) call(close) call(close)" := bcq_worker_skeletons.2.2.2.1
theorem C07_skel_new : Gen.skeletonOf "NewBufferedChannelQueue" = some
    "call(NewLinkedListQueue) set(pool) call(NewChannelQueue) call(NewChannelQueue) call(NewChannelQueue) go{call(freeNodePool)} go{call(loadFromPool)} return" := bcq_worker_skeletons.2.2.2.2
theorem C07_skel_chq_put : Gen.skeletonOf "ChannelQueue.Put" = some "send(q) return" := chq_skeletons.1
theorem C07_skel_chq_putWithTimeout : Gen.skeletonOf "ChannelQueue.PutWithTimeout" = some
    "select{send(q)=>{return} | call(After) recv(After())=>{return}}" := chq_skeletons.2.1
theorem C07_skel_chq_take : Gen.skeletonOf "ChannelQueue.Take" = some "recv(q) if[]{return} return" := chq_skeletons.2.2.1
theorem C07_skel_chq_takeWithTimeout : Gen.skeletonOf "ChannelQueue.TakeWithTimeout" = some
    "select{recv(q)=>{if[]{return} return} | call(After) recv(After())=>{return}}" := chq_skeletons.2.2.2.1
theorem C07_skel_chq_offer : Gen.skeletonOf "ChannelQueue.Offer" = some
    "select{send(q)=>{return} | default=>{return}}" := chq_skeletons.2.2.2.2.1
theorem C07_skel_chq_poll : Gen.skeletonOf "ChannelQueue.Poll" = some
    "select{recv(q)=>{if[]{return} return} | default=>{return}}" := chq_skeletons.2.2.2.2.2

/-- the guards the skeleton does not carry: `poolCount == 0` decides channel-vs-pool, `poolCount >=
    bufferSizeMaximum` is the bound check (`offerFull` / `offerPool`), the loader loops while
    `pool.Count() > 0`, and `Count()` adds the channel length and the pool count -/
theorem C07_guards_offer : Gen.bcqGuardsOf "Offer" = some
    ["if q.isClosed.Get()", "return ErrQueueIsClosed", "set poolCount := q.pool.Count()", "if poolCount == 0",
     "set err := q.blockingQueue.Offer(val)", "if err == nil", "return nil", "if err == ErrQueueIsFull", "return err",
     "if poolCount >= q.bufferSizeMaximum", "return ErrQueueIsFull", "return nil"] := by lookup
theorem C07_guards_loader : Gen.bcqGuardsOf "loadFromPool" = some
    ["if q.isClosed.Get()", "if q.isClosed.Get()", "for q.pool.Count() > 0", "set val, pollErr = q.pool.Poll()",
     "if pollErr != nil", "set offerErr = q.blockingQueue.Offer(val)", "if offerErr != nil"] := by lookup
theorem C07_guards_count : Gen.bcqGuardsOf "Count" = some
    ["if q.isClosed.Get()", "return 0", "return len(q.blockingQueue) + q.pool.Count()"] := by lookup
theorem C07_guards_consumers :
    Gen.bcqGuardsOf "Poll" = some ["if q.isClosed.Get()", "return *new(T), ErrQueueIsClosed", "return q.blockingQueue.Poll()"] ∧
    Gen.bcqGuardsOf "Take" = some ["if q.isClosed.Get()", "return *new(T), ErrQueueIsClosed", "return q.blockingQueue.Take()"] ∧
    Gen.bcqGuardsOf "TakeWithTimeout" = some ["if q.isClosed.Get()", "return *new(T), ErrQueueIsClosed", "return q.blockingQueue.TakeWithTimeout(timeout)"] ∧
    Gen.bcqGuardsOf "GetChannel" = some ["return q.blockingQueue"] ∧
    Gen.bcqGuardsOf "Put" = some ["return q.Offer(val)"] ∧
    Gen.bcqGuardsOf "notifyWorkers" = some ["if q.isClosed.Get()", "return"] := by lookup

/-- constructor wiring (review R3; the skeleton only says that three channels are made): the wake-up channel has
    capacity 1 (`token : Bool`), the data channel gets `channelCapacity` (`c`), the overflow bound is
    `bufferSizeMaximum` (`b`), and a ChannelQueue of capacity k is `make(chan T, k)` -/
theorem C07_guards_constructor :
    Gen.bcqGuardsOf "NewBufferedChannelQueue" = some ["field loadWorkerCh: NewChannelQueue[int](1)",
      "field blockingQueue: NewChannelQueue[T](channelCapacity)", "field pool: pool",
      "field bufferSizeMaximum: bufferSizeMaximum"] ∧
    Gen.bcqGuardsOf "NewChannelQueue" = some ["return make(ChannelQueue[T], capacity)"] := by lookup

/-- what the six ChannelQueue wrappers return in each branch of their select / receive (`chTrySend`, `chTryRecv`:
    nil | Full, value | Closed (`!ok`) | Empty, and the two timeouts) -/
theorem C07_guards_chq :
    Gen.bcqGuardsOf "ChannelQueue.Put" = some ["return nil"] ∧
    Gen.bcqGuardsOf "ChannelQueue.PutWithTimeout" = some ["return nil", "return ErrQueuePutTimeout"] ∧
    Gen.bcqGuardsOf "ChannelQueue.Take" = some ["set val, ok := <-q", "if !ok", "return *new(T), ErrQueueIsClosed", "return val, nil"] ∧
    Gen.bcqGuardsOf "ChannelQueue.TakeWithTimeout" = some ["set val, ok := <-q", "if !ok", "return *new(T), ErrQueueIsClosed",
      "return val, nil", "return *new(T), ErrQueueTakeTimeout"] ∧
    Gen.bcqGuardsOf "ChannelQueue.Offer" = some ["return nil", "return ErrQueueIsFull"] ∧
    Gen.bcqGuardsOf "ChannelQueue.Poll" = some ["set val, ok := <-q", "if !ok", "return *new(T), ErrQueueIsClosed",
      "return val, nil", "return *new(T), ErrQueueIsEmpty"] := by lookup

end FpgoVerif.C07
