import FpgoVerif.Proofs.C05StreamSet
import FpgoVerif.Proofs.C05Twins
/-! Property theorems for C05 — set algebra laws of the implementation models the driver executes
    (`Model/C05Impl.lean`), for ALL inputs (any element type with decidable equality, any length,
    any arity), and agreement of the generic / interface{} models where they are separate.

    Scope note: the property demands the laws for non-empty operands only; most of them are proved
    here without that restriction (they also hold for empty operands of the *slice functions*); where
    the code really deviates for empty operands (`IsSubset`, the `Stream`/`MapSet`/`StreamSet`
    guards) the theorem carries the non-emptiness hypothesis and an `example` shows it satisfiable. -/
namespace FpgoVerif.C05
variable {α : Type} [DecidableEq α]

/-! ## slices (fp.go) -/

/-- Distinct = first occurrences, in the order of the operand (documented: `[8,2,8,0,2,0] ↦ [8,2,0]`). -/
theorem C05_distinct_order (l : List α) : distinct l = Spec.dedup l := by
  cases l with
  | nil => rfl
  | cons x t => exact (dedupLoop_start _ _).trans (List.filter_eq_self.2 fun _ _ => rfl)

theorem C05_distinct_mem (l : List α) (x : α) : x ∈ distinct l ↔ x ∈ l := by
  rw [C05_distinct_order]; exact Spec.mem_dedup x l

theorem C05_distinct_nodup (l : List α) : (distinct l).Nodup := by
  rw [C05_distinct_order]; exact Spec.nodup_dedup l

example : distinct [8, 2, 8, 0, 2, 0] = [8, 2, 0] := by decide

/-- Intersection (any arity ≥ 1): the first occurrences of the items of the first operand that occur
    in every other operand, in the order of the first operand. -/
theorem C05_intersection_order (a : List α) (rest : List (List α)) :
    intersection (some (a :: rest)) =
      .ok ((Spec.dedup a).filter (fun x => rest.all (fun l => decide (x ∈ l)))) := by
  cases rest with
  | nil => simp [intersection, dedupLoop_start]
  | cons b rest' => simp only [intersection, dedupLoop_start, matchCount_beq_length]

/-- x ∈ Intersection as ↔ x is in all operands; the result has no duplicates. -/
theorem C05_intersection_mem (as : List (List α)) (h : as ≠ []) :
    ∃ r, intersection (some as) = .ok r ∧ r.Nodup ∧ ∀ x, x ∈ r ↔ ∀ a ∈ as, x ∈ a := by
  cases as with
  | nil => exact absurd rfl h
  | cons a rest =>
    refine ⟨_, C05_intersection_order a rest, Spec.nodup_filter_dedup a _, fun x => ?_⟩
    simp only [List.mem_filter, Spec.mem_dedup, List.all_eq_true, decide_eq_true_eq, List.mem_cons,
      forall_eq_or_imp]

example : ([[1, 2, 1, 3], [3, 1], [1, 1, 3, 4]] : List (List Nat)) ≠ [] ∧
    intersection (some [[1, 2, 1, 3], [3, 1], [1, 1, 3, 4]]) = .ok [1, 3] := by decide

/-- Difference (any arity ≥ 1): first occurrences of the items of the first operand that occur in
    none of the others, in the order of the first operand. -/
theorem C05_difference_order (a : List α) (rest : List (List α)) :
    difference (some (a :: rest)) =
      .ok ((Spec.dedup a).filter (fun x => rest.all (fun l => decide (x ∉ l)))) := by
  cases rest with
  | nil => exact congrArg Res.ok ((C05_distinct_order a).trans (List.filter_eq_self.2 fun _ _ => rfl).symm)
  | cons b rest' => simp only [difference, dedupLoop_start, matchCount_beq_zero]

theorem C05_difference_mem (a : List α) (rest : List (List α)) :
    ∃ r, difference (some (a :: rest)) = .ok r ∧ r.Nodup ∧ ∀ x, x ∈ r ↔ x ∈ a ∧ ∀ b ∈ rest, x ∉ b := by
  refine ⟨_, C05_difference_order a rest, Spec.nodup_filter_dedup a _, fun x => ?_⟩
  simp only [List.mem_filter, Spec.mem_dedup, List.all_eq_true, decide_eq_true_eq]

example : difference (some [[1, 2, 1, 3, 5], [3], [2, 2]]) = .ok [1, 5] := by decide

/-- x ∈ Union as ↔ x is in some operand (any arity, incl. 0). -/
theorem C05_union_mem (as : List (List α)) (x : α) : x ∈ union as ↔ ∃ a ∈ as, x ∈ a := by
  have inner (m : GoMap α Bool) (arr : List α) (k : α) :
      k ∈ mkeys (arr.foldl (fun m v => mset m v true) m) ↔ k ∈ mkeys m ∨ k ∈ arr := by
    rw [mem_mkeys_foldl fun m v => mem_mkeys_mset m v true]; simp
  rw [union, mem_mkeys_foldl inner]; simp [mkeys]

theorem C05_union_nodup (as : List (List α)) : (union as).Nodup :=
  List.foldlRecOn (motive := fun m => (mkeys m).Nodup) as _ List.nodup_nil fun _ hm arr _ =>
    List.foldlRecOn (motive := fun m => (mkeys m).Nodup) arr _ hm fun m hm v _ => nodup_mkeys_mset m v true hm

/-- Minus keeps the items of the first operand that are not in the second — in order, duplicates kept. -/
theorem C05_minus_order (a b : List α) : minus a b = a.filter (fun x => decide (x ∉ b)) :=
  List.filter_congr fun x _ => by
    rw [Bool.eq_iff_iff, Bool.not_eq_true', mhas_false_iff, mem_mkeys_sliceToMap, decide_eq_true_iff]

theorem C05_minus_mem (a b : List α) (x : α) : x ∈ minus a b ↔ x ∈ a ∧ x ∉ b := by
  rw [C05_minus_order]; simp

/-- IsSubset(A,B) ↔ every element of A occurs in B — for non-empty operands (the code answers
    `false` as soon as one operand is empty). -/
theorem C05_isSubset_iff (a b : List α) (ha : a ≠ []) (hb : b ≠ []) :
    isSubset a b = true ↔ ∀ x ∈ a, x ∈ b := by
  simp only [isSubset, length_beq_zero ha, length_beq_zero hb, Bool.or_self, Bool.false_eq_true, if_false]
  exact isSubsetLoop_iff b a [] nofun

theorem C05_isSuperset_iff (a b : List α) (ha : a ≠ []) (hb : b ≠ []) :
    isSuperset a b = true ↔ ∀ x ∈ b, x ∈ a := C05_isSubset_iff b a hb ha

example : ([1, 1, 2] : List Nat) ≠ [] ∧ ([2, 3, 1] : List Nat) ≠ [] ∧ isSubset [1, 1, 2] [2, 3, 1] = true ∧
    isSubset [1, 4] [2, 3, 1] = false := by decide

/-- outside the demanded scope the code answers `false` (so `[] ⊆ B` is *not* reported) -/
theorem C05_isSubset_empty (a b : List α) (h : a = [] ∨ b = []) : isSubset a b = false := by
  rcases h with h | h <;> simp [isSubset, h]

/-- derived law: A = (A ∖ B) ∪ (A ∩ B) as sets -/
theorem C05_partition_law (a b : List α) (x : α) :
    x ∈ a ↔ x ∈ minus a b ∨ ∃ r, intersection (some [a, b]) = .ok r ∧ x ∈ r := by
  rw [C05_minus_mem, C05_intersection_order]
  by_cases hb : x ∈ b <;> simp [Spec.mem_dedup, hb]

/-- derived law: A ⊆ B ↔ A ∖ B = ∅ (non-empty operands) -/
theorem C05_subset_iff_empty_difference (a b : List α) (ha : a ≠ []) (hb : b ≠ []) :
    isSubset a b = true ↔ difference (some [a, b]) = .ok [] := by
  rw [C05_isSubset_iff a b ha hb, C05_difference_order, Res.ok.injEq, List.filter_eq_nil_iff]
  simp [Spec.mem_dedup]

/-! ## Stream methods -/

/-- Stream.Intersection for a non-empty argument -/
theorem C05_stream_intersection (s i : List α) (hi : i ≠ []) :
    Stream.intersection s (some i) = (Spec.dedup s).filter (fun x => decide (x ∈ i)) ∧
    (Stream.intersection s (some i)).Nodup ∧
    ∀ x, x ∈ Stream.intersection s (some i) ↔ x ∈ s ∧ x ∈ i := by
  have e : Stream.intersection s (some i) = (Spec.dedup s).filter (fun x => decide (x ∈ i)) := by
    simp only [Stream.intersection, length_beq_zero hi, Bool.false_eq_true, if_false, dedupLoop_start]
    exact List.filter_congr fun x _ => by simpa using matchCount_beq_length x [i]
  rw [e]
  exact ⟨rfl, Spec.nodup_filter_dedup s _, fun x => by simp [Spec.mem_dedup]⟩

example : ([2, 1] : List Nat) ≠ [] ∧ Stream.intersection [1, 3, 1, 2] (some [2, 1]) = [1, 2] := by decide

/-- Stream.Minus / RemoveItem (any argument; a nil or empty argument returns the receiver) -/
theorem C05_stream_minus (s : List α) (i : Option (List α)) (x : α) :
    x ∈ Stream.minus s i ↔ x ∈ s ∧ x ∉ i.getD [] := by
  rcases i with _ | _ | ⟨y, i⟩
  · simp [Stream.minus]
  · simp [Stream.minus]
  · exact C05_minus_mem s (y :: i) x

theorem C05_stream_removeItem (s input : List α) (x : α) :
    x ∈ Stream.removeItem s input ↔ x ∈ s ∧ x ∉ input := by
  rcases input with _ | ⟨y, i⟩
  · simp [Stream.removeItem]
  · exact C05_minus_mem s (y :: i) x

theorem C05_stream_isSubset (s i : List α) (hs : s ≠ []) (hi : i ≠ []) :
    Stream.isSubset s (some i) = true ↔ ∀ x ∈ s, x ∈ i := by
  simp only [Stream.isSubset, length_beq_zero hi, Bool.false_eq_true, if_false]
  exact C05_isSubset_iff s i hs hi

theorem C05_stream_isSuperset (s i : List α) (hs : s ≠ []) (hi : i ≠ []) :
    Stream.isSuperset s (some i) = true ↔ ∀ x ∈ i, x ∈ s := by
  simp only [Stream.isSuperset, length_beq_zero hi, Bool.false_eq_true, if_false]
  exact C05_isSuperset_iff s i hs hi

example : ([1, 2] : List Nat) ≠ [] ∧ ([2] : List Nat) ≠ [] ∧ Stream.isSuperset [1, 2] (some [2]) = true ∧
    Stream.isSubset [1, 2] (some [2]) = false := by decide

theorem C05_stream_distinct (s : List α) :
    Stream.distinct s = Spec.dedup s ∧ (Stream.distinct s).Nodup ∧ ∀ x, x ∈ Stream.distinct s ↔ x ∈ s :=
  ⟨C05_distinct_order s, C05_distinct_nodup s, C05_distinct_mem s⟩

theorem C05_stream_contains (s : List α) (x : α) : Stream.contains s x = true ↔ x ∈ s := existsIn_iff x s

/-! ## Stream.Remove: twins with separate models -/

/-- `StreamDef.Remove` (fresh slice) and `StreamForInterfaceDef.Remove` (in-place shift) return the
    same list for every receiver and every index (negative and out-of-range included). -/
theorem C05_twin_streamRemove {β : Type} (s : List β) (index : Int) :
    G.streamRemove s index = I.streamRemove s index := by
  unfold G.streamRemove I.streamRemove
  split
  · rw [shiftDown_eq]
  · rfl

/-! ## map functions and MapSet / SetForInterface methods (by key)

    A Go map has unique keys: the hypotheses `(mkeys m).Nodup` say exactly that. -/

section ByKey
variable {κ ν : Type} [DecidableEq κ]

/-- Merge: k ∈ keys ↔ in one of the operands; the second operand's value wins. -/
theorem C05_merge_keys (m1 m2 : GoMap κ ν) (k : κ) :
    k ∈ mkeys (merge m1 m2) ↔ k ∈ mkeys m1 ∨ k ∈ mkeys m2 := by
  rw [merge, mem_mkeys_mcopyInto, mem_mkeys_mcopyInto]; simp [mkeys]

/-- IntersectionMapByKey (any arity ≥ 1): a key is in the result iff it is in every operand; the
    counting pass (`countMap[k]++ … if v < inputLen { delete }`) is what is proved correct here. -/
theorem C05_intersectionMapByKey_keys (ms : List (GoMap κ ν)) (hne : ms ≠ [])
    (hms : ∀ m ∈ ms, (mkeys m).Nodup) (k : κ) :
    k ∈ mkeys (intersectionMapByKey ms) ↔ ∀ m ∈ ms, k ∈ mkeys m :=
  mem_mkeys_intersectionMapByKey ms hne hms k

theorem C05_intersectionMapByKey_nodup (ms : List (GoMap κ ν)) : (mkeys (intersectionMapByKey ms)).Nodup :=
  nodup_mkeys_intersectionMapByKey ms

example : ([[(1, 10), (2, 20)], [(2, 21), (3, 31)], [(2, 22)]] : List (GoMap Nat Nat)) ≠ [] ∧
    intersectionMapByKey [[(1, 10), (2, 20)], [(2, 21), (3, 31)], [(2, 22)]] = [(2, 20)] := by decide

theorem C05_minusMapByKey_keys (a b : GoMap κ ν) (k : κ) :
    k ∈ mkeys (minusMapByKey a b) ↔ k ∈ mkeys a ∧ k ∉ mkeys b := by
  have step (r : GoMap κ ν) (p : κ × ν) (k : κ) :
      k ∈ mkeys (if mhas b p.1 then r else mset r p.1 p.2) ↔ k ∈ mkeys r ∨ p.1 ∉ mkeys b ∧ p.1 = k := by
    by_cases hb : p.1 ∈ mkeys b <;> simp [hb, mhas_iff, mem_mkeys_mset]
  rw [minusMapByKey, mem_mkeys_foldl step]
  simp only [mkeys, List.map_nil, List.not_mem_nil, false_or, List.mem_map]
  exact ⟨fun ⟨p, hp, h, e⟩ => ⟨⟨p, hp, e⟩, e ▸ h⟩, fun ⟨⟨p, hp, e⟩, h⟩ => ⟨p, hp, e ▸ h, e⟩⟩

theorem C05_isSubsetMapByKey_iff (a b : GoMap κ ν) (ha : a ≠ []) (hb : b ≠ []) :
    isSubsetMapByKey a b = true ↔ ∀ k ∈ mkeys a, k ∈ mkeys b := by
  simp only [isSubsetMapByKey, length_beq_zero ha, length_beq_zero hb, Bool.or_self, Bool.false_eq_true, if_false,
    List.all_eq_true, mhas_iff]
  exact ⟨fun h k hk => let ⟨p, hp, e⟩ := List.mem_map.1 hk; e ▸ h p hp, fun h p hp => h p.1 (List.mem_map_of_mem hp)⟩

/-- MapSet.Union (argument non-nil; an empty argument returns the receiver, which satisfies the law too) -/
theorem C05_mapset_union_keys (m i : GoMap κ ν) (hm : (mkeys m).Nodup) (k : κ) :
    (k ∈ mkeys (MapSet.union m (some i)) ↔ k ∈ mkeys m ∨ k ∈ mkeys i) ∧
    (mkeys (MapSet.union m (some i))).Nodup := by
  rcases i with _ | ⟨p, i⟩
  · exact ⟨by simp [MapSet.union, mkeys], hm⟩
  · exact ⟨C05_merge_keys m _ k, nodup_mkeys_merge m _⟩

/-- MapSet.Intersection (unique keys in both operands) -/
theorem C05_mapset_intersection_keys (m i : GoMap κ ν) (hm : (mkeys m).Nodup) (hi : (mkeys i).Nodup) (k : κ) :
    (k ∈ mkeys (MapSet.intersection m (some i)) ↔ k ∈ mkeys m ∧ k ∈ mkeys i) ∧
    (mkeys (MapSet.intersection m (some i))).Nodup := by
  rcases i with _ | ⟨p, i⟩
  · exact ⟨by simp [MapSet.intersection, mkeys], List.nodup_nil⟩
  · exact ⟨(mem_mkeys_intersectionMapByKey [m, p :: i] (by simp) (by simp [hm, hi]) k).trans (by simp),
      nodup_mkeys_intersectionMapByKey [m, p :: i]⟩

theorem C05_mapset_minus_keys (m i : GoMap κ ν) (hm : (mkeys m).Nodup) (k : κ) :
    (k ∈ mkeys (MapSet.minus m (some i)) ↔ k ∈ mkeys m ∧ k ∉ mkeys i) ∧
    (mkeys (MapSet.minus m (some i))).Nodup := by
  by_cases hi : i = []
  · subst hi; exact ⟨by simp [MapSet.minus, mkeys], hm⟩
  · simp only [MapSet.minus, length_beq_zero hi, Bool.false_eq_true, if_false, MapSet.clone, duplicateMap_eq m hm]
    refine ⟨?_, nodup_mkeys_foldl_del _ _ _ hm⟩
    rw [mem_mkeys_foldl_del]
    refine and_congr_right fun h1 => ⟨fun h2 hk => ?_, fun h2 p _ hc hpk => h2 (hpk ▸ (mhas_iff i p.1).1 hc)⟩
    obtain ⟨p, hp, rfl⟩ := List.mem_map.1 h1
    exact h2 p hp ((mhas_iff i p.1).2 hk) rfl

example : MapSet.minus [(1, 10), (2, 20), (3, 30)] (some [(2, 0), (4, 0)]) = [(1, 10), (3, 30)] := by decide

/-- IsSubsetByKey / IsSupersetByKey for non-empty operands -/
theorem C05_mapset_isSubsetByKey (m i : GoMap κ ν) (hm : m ≠ []) (hi : i ≠ []) :
    MapSet.isSubsetByKey m (some i) = true ↔ ∀ k ∈ mkeys m, k ∈ mkeys i := C05_isSubsetMapByKey_iff m i hm hi

theorem C05_mapset_isSupersetByKey (m i : GoMap κ ν) (hm : m ≠ []) (hi : i ≠ []) :
    MapSet.isSupersetByKey m (some i) = true ↔ ∀ k ∈ mkeys i, k ∈ mkeys m := C05_isSubsetMapByKey_iff i m hi hm

example : ([(1, 0)] : GoMap Nat Nat) ≠ [] ∧ MapSet.isSubsetByKey [(1, 0)] (some [(2, 5), (1, 7)]) = true ∧
    MapSet.isSupersetByKey [(1, 0)] (some [(2, 5), (1, 7)]) = false := by decide

/-! ## twins with separate models: StreamSet "DUPLICATED ZONE" and constructors — all operands,
    empty and nil included -/

theorem C05_twin_ssMinus {β : Type} (m : GoMap κ (List β)) (input : Option (GoMap κ (List β))) :
    G.ssMinus m input = I.ssMinus m input := by
  -- nil, empty and non-empty argument: the guards of the two families differ only in the first two
  rcases input with _ | _ | ⟨p, i⟩ <;> rfl

theorem C05_twin_ssIsSubsetByKey {β : Type} (m : GoMap κ (List β)) (input : Option (GoMap κ (List β))) :
    G.ssIsSubsetByKey m input = I.ssIsSubsetByKey m input := by
  rcases input with _ | _ | ⟨p, i⟩
  · rfl
  · exact isSubsetMapByKey_empty m [] (.inr rfl)
  · rfl

theorem C05_twin_ssIsSupersetByKey {β : Type} (m : GoMap κ (List β)) (input : Option (GoMap κ (List β))) :
    G.ssIsSupersetByKey m input = I.ssIsSupersetByKey m input := by
  rcases input with _ | _ | ⟨p, i⟩
  · rfl
  · exact isSubsetMapByKey_empty [] m (.inl rfl)
  · rfl

theorem C05_twin_streamSetFromMap {β : Type} (theMap : GoMap κ (List β)) :
    G.streamSetFromMap theMap = I.streamSetFromMap theMap := by
  rcases theMap with _ | ⟨p, t⟩ <;> simp [G.streamSetFromMap, I.streamSetFromMap, duplicateMap, mcopyInto]

/-- the two constructors of a StreamSet result (`StreamSetFromMap(x)` copies, `&StreamSetForInterfaceDef{…: x}`
    wraps) give the same content: Clone / Union / Intersection / MinusStreams agree on all operands -/
theorem C05_twin_ssClone {β : Type} [DecidableEq β] (m : GoMap κ (List β)) : G.ssClone m = I.ssClone m := by
  simp only [G.ssClone, I.ssClone, StreamSet.cloneW, duplicateMap_eq _ (nodup_mkeys_duplicateMap m), id]

theorem C05_twin_ssUnion {β : Type} [DecidableEq β] (m : GoMap κ (List β)) (input : Option (GoMap κ (List β))) :
    G.ssUnion m input = I.ssUnion m input := by
  cases input with
  | none => rfl
  | some i => simp only [G.ssUnion, I.ssUnion, StreamSet.unionW, duplicateMap_eq _ (nodup_mkeys_merge m i), id]

theorem C05_twin_ssIntersection {β : Type} [DecidableEq β] (m : GoMap κ (List β))
    (input : Option (GoMap κ (List β))) : G.ssIntersection m input = I.ssIntersection m input := by
  cases input with
  | none => rfl
  | some i =>
    simp only [G.ssIntersection, I.ssIntersection, StreamSet.intersectionW,
      duplicateMap_eq _ (nodup_mkeys_intersectionMapByKey [m, i]), id]

theorem C05_twin_ssMinusStreams {β : Type} [DecidableEq β] (m : GoMap κ (List β))
    (input : Option (GoMap κ (List β))) : G.ssMinusStreams m input = I.ssMinusStreams m input := by
  have h := C05_twin_ssClone m
  simp only [G.ssClone, I.ssClone] at h
  cases input with
  | none => rfl
  | some i => simp only [G.ssMinusStreams, I.ssMinusStreams, StreamSet.minusStreamsW, h]

end ByKey

/-! ## StreamSet: by key, then per-key stream.  `(mget s k).getD []` is the stream under key `k`
    (empty when the key is absent).  Scope of the property: non-empty key maps and non-empty per-key
    streams; the hypotheses below are exactly the part of that scope each law needs. -/

section StreamSetLaws
variable {κ β : Type} [DecidableEq κ] [DecidableEq β]

/-- StreamSet.Union: keys = union of the keys; under each key the items of both streams.
    Needs the *argument's* streams non-empty (an empty stream in the argument overwrites the receiver's
    stream — recorded observation, outside the demanded scope). -/
theorem C05_streamset_union (m i : GoMap κ (List β)) (hm : (mkeys m).Nodup) (hi : (mkeys i).Nodup)
    (hne : i ≠ []) (hstreams : ∀ k v2, mget i k = some v2 → v2 ≠ []) (k : κ) :
    (k ∈ mkeys (G.ssUnion m (some i)) ↔ k ∈ mkeys m ∨ k ∈ mkeys i) ∧
    ∀ x, x ∈ (mget (G.ssUnion m (some i)) k).getD [] ↔ x ∈ (mget m k).getD [] ∨ x ∈ (mget i k).getD [] := by
  simp only [← mget_isSome_iff, mget_ssUnion m i hm hi hne k, perKeyVal]
  cases hmk : mget m k with
  | none => cases hik : mget i k <;> simp
  | some v =>
    cases hik : mget i k with
    | none => simp
    | some v2 => simp [List.length_pos_iff.2 (hstreams k v2 hik), Stream.extend]

example : G.ssUnion [(1, [1, 2]), (2, [5])] (some [(1, [2, 3]), (3, [7])]) = [(1, [1, 2, 2, 3]), (2, [5]), (3, [7])] := by
  decide

/-- StreamSet.Intersection: common keys; under each the items common to both streams (argument's streams non-empty) -/
theorem C05_streamset_intersection (m i : GoMap κ (List β)) (hm : (mkeys m).Nodup) (hi : (mkeys i).Nodup)
    (hne : i ≠ []) (hstreams : ∀ k v2, mget i k = some v2 → v2 ≠ []) (k : κ) :
    (k ∈ mkeys (G.ssIntersection m (some i)) ↔ k ∈ mkeys m ∧ k ∈ mkeys i) ∧
    ∀ x, x ∈ (mget (G.ssIntersection m (some i)) k).getD [] ↔ x ∈ (mget m k).getD [] ∧ x ∈ (mget i k).getD [] := by
  simp only [← mget_isSome_iff, mget_ssIntersection m i hm hi hne k]
  cases hik : mget i k with
  | none => simp [perKeyVal, mhas, hik]
  | some v2 =>
    have hv2 : v2 ≠ [] := hstreams k v2 hik
    cases hmk : mget m k with
    | none => simp [perKeyVal, mhas, hik]
    | some v =>
      simpa [perKeyVal, mhas, hik, List.length_pos_iff.2 hv2] using (C05_stream_intersection v v2 hv2).2.2

example : G.ssIntersection [(1, [1, 2, 1]), (2, [5])] (some [(1, [2, 1]), (3, [7])]) = [(1, [1, 2])] := by decide

/-- StreamSet.MinusStreams: the receiver's keys; under each key the receiver's items that are not in the
    argument's stream for that key (argument non-empty as a key map; its streams may be anything) -/
theorem C05_streamset_minusStreams (m i : GoMap κ (List β)) (hm : (mkeys m).Nodup) (hne : i ≠ []) (k : κ) :
    (k ∈ mkeys (G.ssMinusStreams m (some i)) ↔ k ∈ mkeys m) ∧
    ∀ x, x ∈ (mget (G.ssMinusStreams m (some i)) k).getD [] ↔ x ∈ (mget m k).getD [] ∧ x ∉ (mget i k).getD [] := by
  simp only [← mget_isSome_iff, mget_ssMinusStreams m i hm hne k, perKeyVal]
  cases hmk : mget m k with
  | none => cases hik : mget i k <;> simp
  | some v =>
    cases hik : mget i k with
    | none => simp
    | some v2 =>
      by_cases hl : v2.length > 0
      · simp only [hl, if_true, Option.isSome_some, Option.getD_some, true_and]
        exact fun x => C05_stream_minus v (some v2) x
      · rw [List.length_eq_zero_iff.1 (Nat.eq_zero_of_not_pos hl)]; simp

example : G.ssMinusStreams [(1, [1, 2, 1]), (2, [5])] (some [(1, [1]), (3, [7])]) = [(1, [2]), (2, [5])] := by decide

/-- StreamSet.Minus (by key): the receiver's keys that the argument does not have, streams untouched -/
theorem C05_streamset_minus (m i : GoMap κ (List β)) (hm : (mkeys m).Nodup) (k : κ) :
    (k ∈ mkeys (G.ssMinus m (some i)) ↔ k ∈ mkeys m ∧ k ∉ mkeys i) ∧
    (k ∉ mkeys i → mget (G.ssMinus m (some i)) k = mget m k) := by
  refine ⟨(C05_mapset_minus_keys m i hm k).1, fun hk => ?_⟩
  simp only [G.ssMinus, MapSet.minus]
  split
  · rfl
  · have hkeep : ∀ p ∈ m, mhas i p.1 = true → p.1 ≠ k := fun p _ hc hpk => hk (hpk ▸ (mhas_iff i p.1).1 hc)
    rw [MapSet.clone, duplicateMap_eq m hm, mget_foldl_del, if_pos hkeep]

/-- StreamSet.IsSubsetByKey / IsSupersetByKey (non-empty key maps; stated for the generic family, the interface{}
    family follows with `C05_twin_ssIsSubsetByKey` / `C05_twin_ssIsSupersetByKey`) -/
theorem C05_streamset_isSubsetByKey (m i : GoMap κ (List β)) (hm : m ≠ []) (hi : i ≠ []) :
    (G.ssIsSubsetByKey m (some i) = true ↔ ∀ k ∈ mkeys m, k ∈ mkeys i) ∧
    (G.ssIsSupersetByKey m (some i) = true ↔ ∀ k ∈ mkeys i, k ∈ mkeys m) :=
  ⟨C05_isSubsetMapByKey_iff m i hm hi, C05_isSubsetMapByKey_iff i m hi hm⟩

example : ([(1, [1])] : GoMap Nat (List Nat)) ≠ [] ∧
    G.ssIsSubsetByKey [(1, [1])] (some [(2, [0]), (1, [])]) = true ∧
    I.ssIsSupersetByKey [(1, [1])] (some [(2, [0]), (1, [])]) = false := by decide

end StreamSetLaws

/-! ## the oracle (`judge`) accepts what the models compute: the Bool checks of `Spec` hold for the
    results of the implementation models (so a model/implementation agreement can never be flagged, and
    on a disagreement the oracle compares the real result with the laws, not with the model) -/

theorem C05_judge_accepts_intersection (as : List (List Nat)) (h : as ≠ []) :
    ∃ r, intersection (some as) = .ok r ∧ Spec.interOK as r = true := by
  cases as with
  | nil => exact absurd rfl h
  | cons a rest =>
    refine ⟨_, C05_intersection_order a rest, ?_⟩
    simp only [Spec.interOK, Bool.and_eq_true, List.headD_cons]
    refine ⟨⟨Spec.members_of _ _ _ fun x => ?_, (Spec.nodup_iff _).2 (Spec.nodup_filter_dedup a _)⟩,
      Spec.ordered_of a _ _ rfl⟩
    simp [Spec.mem_dedup]

theorem C05_judge_accepts_difference (a : List Nat) (rest : List (List Nat)) :
    ∃ r, difference (some (a :: rest)) = .ok r ∧ Spec.diffOK (a :: rest) r = true := by
  refine ⟨_, C05_difference_order a rest, ?_⟩
  simp only [Spec.diffOK, Bool.and_eq_true, List.headD_cons, List.drop_succ_cons, List.drop_zero]
  refine ⟨⟨Spec.members_of _ _ _ fun x => ?_, (Spec.nodup_iff _).2 (Spec.nodup_filter_dedup a _)⟩,
    Spec.ordered_of a _ _ rfl⟩
  simp [Spec.mem_dedup]

theorem C05_judge_accepts_union (as : List (List Nat)) : Spec.unionOK as (union as) = true := by
  simp only [Spec.unionOK, Bool.and_eq_true]
  refine ⟨Spec.members_of _ _ _ (fun x => ?_), (Spec.nodup_iff _).2 (C05_union_nodup as)⟩
  rw [C05_union_mem]; simp

theorem C05_judge_accepts_distinct (a : List Nat) : Spec.distinctOK a (distinct a) = true := by
  simp only [Spec.distinctOK, Bool.and_eq_true]
  refine ⟨⟨Spec.members_of _ _ _ (fun x => ?_), (Spec.nodup_iff _).2 (C05_distinct_nodup a)⟩, ?_⟩
  · rw [C05_distinct_mem]; simp
  · apply Spec.ordered_of a _ (fun _ => true)
    rw [C05_distinct_order]; symm; exact List.filter_eq_self.2 (by simp)

theorem C05_judge_accepts_minus (a b : List Nat) : Spec.minusOK a b (minus a b) = true := by
  simp only [Spec.minusOK]
  refine Spec.members_of _ _ _ (fun x => ?_)
  rw [C05_minus_mem]; simp

theorem C05_judge_accepts_isSubset (a b : List Nat) (ha : a ≠ []) (hb : b ≠ []) :
    Spec.subsetOK a b (isSubset a b) = true := by
  rw [Spec.subsetOK, beq_iff_eq, Bool.eq_iff_iff, C05_isSubset_iff a b ha hb]
  simp

/-! ## closing theorems over the regenerated twin table (`Gen/Twins.lean`, rebuilt from the repository
    on every run).  Identical code on the same comparable data gives identical answers (trusted: Go's
    `==` / map lookup on `interface{}` values holding equal `int`s agrees with the typed one), so for
    the pairs below ONE model serves both twins. -/

/-- every pair modelled by a single function is still textually identical after type erasure -/
theorem C05_twins_same : twinsSameOK Gen.twins = true := all_any_of_scan _ _ _ (by decide +kernel)

/-- the pairs with separate `G.*` / `I.*` models still have exactly the bodies the models were written from -/
theorem C05_twins_different_unchanged : twinsDifferentOK Gen.twins = true :=
  all_any_of_scan _ _ _ (by decide +kernel)

/-- there is no generic / interface{} pair without a model, and no interface{} function without a twin -/
theorem C05_twins_complete : twinsCompleteOK Gen.twins Gen.twinsMissing = true := by
  -- the identical pairs are looked up among the single models, the others among the separate ones
  have hs := all_any_of_scan (fun (p : Gen.TwinPair) n => p.generic == n)
    (Gen.twins.filter (·.identical)) expectedSame (by decide +kernel)
  have hd := all_any_of_scan (fun (p : Gen.TwinPair) (e : String × Nat × Nat) => e.1 == p.generic)
    (Gen.twins.filter (!·.identical)) expectedDifferent (by decide +kernel)
  simp only [twinsCompleteOK, Bool.and_eq_true, List.all_eq_true, Bool.or_eq_true, List.contains_eq_any_beq]
  refine ⟨⟨fun p hp => ?_, by decide +kernel⟩, by decide +kernel⟩
  cases hi : p.identical
  · exact Or.inr (List.all_eq_true.1 hd p (List.mem_filter.2 ⟨hp, by simp [hi]⟩))
  · exact Or.inl (List.all_eq_true.1 hs p (List.mem_filter.2 ⟨hp, hi⟩))

end FpgoVerif.C05
