import FpgoVerif.Proofs.C03Loops
import FpgoVerif.Proofs.C03Heap
import FpgoVerif.Model.C03
import FpgoVerif.Gen.EffectsC03
/-! Property theorems for C03: for every helper, the loop-mirroring implementation model equals the
    documented definition for ALL inputs (so in particular it never panics: the right-hand side is
    `.ok _` or a plain value).  Helper lemmas live in `Proofs/C03*.lean`. -/
namespace FpgoVerif.C03
variable {α β κ ν : Type}

/-- "Inputs unmodified": in the CURRENT source of fp.go (table regenerated by `extract/c03.go` on every
    run) no helper that returns a list or a map performs a destructive operation — index/map store,
    `append` onto parameter-derived storage, `copy`, `delete`, in-place sort, directly or through a
    callee — on storage reachable from one of its parameters. -/
theorem C03_effects : ∀ h ∈ newDataHelpers, Gen.effectsC03.lookup h = some [] := by decide +kernel

/-- the same for the helpers that return a scalar or a boolean -/
theorem C03_effects_queries : ∀ h ∈ queryHelpers, Gen.effectsC03.lookup h = some [] := by decide +kernel

/-- the helpers whose doc comment promises new storage never return a value that shares storage with
    a parameter (no `return list`, `return list[a:b]`, `return map1`, nor a call that does so) -/
theorem C03_fresh : ∀ h ∈ docNewHelpers, Gen.aliasReturnsC03.lookup h = some [] := by decide +kernel

/-- tie of the heap-level model to the source: for every helper the origins of the returned values found in
    fp.go (regenerated `Gen.allocOriginsC03`) are compatible with the allocation shape the heap model uses
    (`allocClass`): `fresh` helpers return allocation sites only (never parameter storage), views may return
    parameter storage, scalar helpers return no storage, nothing is `unknown` -/
theorem C03_allocShape :
    ∀ p ∈ allocClass, (Gen.allocOriginsC03.lookup p.1).map (originsCompatible p.2) = some true := by decide +kernel

theorem C03_map (z : β) (f : α → β) (xs : List α) : Impl.map z f xs = .ok (Spec.map f xs) := by
  simp [Impl.map, Spec.map, fillLoop_whole, map_zipIdx_fst]

theorem C03_mapIndexed (z : β) (f : α → Nat → β) (xs : List α) :
    Impl.mapIndexed z f xs = .ok (Spec.mapIndexed f xs) := by
  simp [Impl.mapIndexed, Spec.mapIndexed, fillLoop_whole, List.mapIdx_eq_zipIdx_map]

theorem C03_keys (z : κ) (m : List (κ × ν)) : Impl.keys z m = .ok (Spec.keys m) := by
  simp [Impl.keys, Spec.keys, fillLoop_whole, map_zipIdx_fst (fun p : κ × ν => p.1)]

theorem C03_values (z : ν) (m : List (κ × ν)) : Impl.values z m = .ok (Spec.values m) := by
  simp [Impl.values, Spec.values, fillLoop_whole, map_zipIdx_fst (fun p : κ × ν => p.2)]

theorem C03_reduce (fn : β → α → β) (memo : β) (xs : List α) :
    Impl.reduce fn memo xs = .ok (Spec.reduce fn memo xs) :=
  reduceLoop_spec fn xs _ 0 memo (Nat.zero_add _)

theorem C03_dropEq [DecidableEq α] (num : α) (xs : List α) : Impl.dropEq num xs = Spec.dropEq num xs := by
  simp [Impl.dropEq, Spec.dropEq, dropEqLoop_spec]

theorem C03_exists [DecidableEq α] (x : α) (xs : List α) : Impl.exists_ x xs = Spec.exists_ x xs := by
  induction xs with
  | nil => rfl
  | cons v t ih =>
    rw [Impl.exists_, ih]
    by_cases h : v = x <;> simp [Spec.exists_, h, Ne.symm]

theorem C03_every (f : Option (α → Bool)) (xs : List α) : Impl.every f xs = Spec.every f xs := by
  cases f with
  | none => rfl
  | some f => cases xs <;> simp [Impl.every, Spec.every, everyLoop_spec]

theorem C03_some (f : Option (α → Bool)) (xs : List α) : Impl.some f xs = Spec.some f xs := by
  cases f with
  | none => rfl
  | some f => simp [Impl.some, Spec.some, someLoop_spec]

theorem C03_partition (p : α → Bool) (xs : List α) : Impl.partition p xs = Spec.partition p xs := by
  simp [Impl.partition, Spec.partition, partitionLoop_spec]

theorem C03_drop (count : Int) (s : Sl α) :
    (Impl.drop count s).map Sl.vis = .ok (Spec.drop count s.vis) := by
  unfold Impl.drop Spec.drop
  by_cases h1 : count ≤ 0
  · simp only [if_pos h1]; rfl
  · obtain ⟨c, rfl⟩ := Int.eq_ofNat_of_zero_le (Int.le_of_lt (Int.not_le.mp h1))
    simp only [if_neg h1, Int.toNat_natCast]
    split
    · rename_i h2
      rw [List.drop_eq_nil_of_le (Int.ofNat_le.mp h2)]; rfl
    · rename_i h2
      rw [Sl.reslice_vis s (Int.natCast_nonneg c) (Int.le_of_not_le h2) (Int.le_refl _), Sl.len, Int.toNat_natCast,
        Int.toNat_natCast, List.take_length]

theorem C03_dropLast (count : Int) (s : Sl α) :
    (Impl.dropLast count s).map Sl.vis = .ok (Spec.dropLast count s.vis) := by
  unfold Impl.dropLast Spec.dropLast Sl.len
  by_cases h1 : count ≤ 0
  · simp only [if_pos h1]
    split
    · rw [List.eq_nil_of_length_eq_zero (l := s.vis) (by omega)]; rfl
    · rfl
  · obtain ⟨c, rfl⟩ := Int.eq_ofNat_of_zero_le (Int.le_of_lt (Int.not_le.mp h1))
    simp only [if_neg h1, Int.toNat_natCast]
    split
    · rw [show s.vis.length - c = 0 by omega, List.take_zero]; rfl
    · rw [Sl.reslice_vis s (Int.le_refl 0) (by omega) (by unfold Sl.len; omega), Int.toNat_zero, List.drop_zero,
        Int.toNat_sub]

theorem C03_take (count : Int) (s : Sl α) :
    (Impl.take count s).map Sl.vis = .ok (Spec.take count s.vis) := by
  unfold Impl.take Spec.take Sl.len
  by_cases h1 : count ≤ 0
  · simp only [h1, or_true, if_true]; rfl
  · obtain ⟨c, rfl⟩ := Int.eq_ofNat_of_zero_le (Int.le_of_lt (Int.not_le.mp h1))
    simp only [h1, or_false, if_false, Int.toNat_natCast]
    split
    · rename_i h2
      rw [List.take_of_length_le (Int.ofNat_le.mp h2)]; rfl
    · rename_i h2
      rw [Sl.reslice_vis s (Int.le_refl 0) (Int.natCast_nonneg c) (Int.le_of_not_le h2), Int.toNat_zero, List.drop_zero,
        Int.toNat_natCast]

theorem C03_takeLast (count : Int) (s : Sl α) :
    (Impl.takeLast count s).map Sl.vis = .ok (Spec.takeLast count s.vis) := by
  unfold Impl.takeLast Spec.takeLast Sl.len
  by_cases h1 : count ≤ 0
  · simp only [h1, or_true, if_true]; rfl
  · obtain ⟨c, rfl⟩ := Int.eq_ofNat_of_zero_le (Int.le_of_lt (Int.not_le.mp h1))
    simp only [h1, or_false, if_false, Int.toNat_natCast]
    split
    · rw [show s.vis.length - c = 0 by omega, List.drop_zero]; rfl
    · rw [Sl.reslice_vis s (b := (s.vis.length : Int)) (by omega) (by omega) (Int.le_refl _), Int.toNat_natCast,
        List.take_length, Int.toNat_sub]

theorem C03_tail (s : Sl α) : (Impl.tail s).map Sl.vis = .ok (Spec.tail s.vis) := by
  simpa [Impl.tail, Spec.tail, Spec.drop] using C03_drop 1 s

theorem C03_head (z : α) (s : Sl α) : Impl.head z s = .ok (Spec.head z s.vis) := by
  unfold Impl.head Spec.head Sl.len
  cases hv : s.vis with
  | nil => simp
  | cons x t =>
    have hc : (0:Int) ≤ 0 ∧ (0:Int) ≤ 1 ∧ (1:Int) ≤ s.cap := by
      unfold Sl.cap; rw [hv]; simp; omega
    have : ¬ ((t.length : Int) + 1 ≤ 0) := by omega
    simp [Sl.reslice, hc, hv, this, getN]

theorem C03_duplicateSlice (s : Sl α) : Impl.duplicateSlice s = .ok (Spec.duplicateSlice s.vis) := by
  unfold Impl.duplicateSlice Spec.duplicateSlice Sl.len
  cases hv : s.vis with
  | nil => simp
  | cons x t =>
    have hc : (0:Int) ≤ s.cap := by unfold Sl.cap; omega
    have : (0:Int) < (t.length : Int) + 1 := by omega
    -- non-empty: `list[:0:0]` has no capacity, so the `append` allocates and copies
    simp [Sl.reslice3, hc, this, Sl.append]

theorem C03_prepend (x : α) (xs : List α) : Impl.prepend x xs = Spec.prepend x xs := by
  simp only [Impl.prepend, Spec.prepend, Sl.append]
  split <;> rfl

theorem C03_isDistinct [DecidableEq α] (xs : List α) : Impl.isDistinct xs = Spec.isDistinct xs := by
  cases xs with
  | nil => simp [Impl.isDistinct, Spec.isDistinct]
  | cons x t => simp [Impl.isDistinct, Spec.isDistinct, isDistinctLoop_spec _ _ List.nodup_nil]

theorem C03_isEqual [DecidableEq α] (xs ys : List α) : Impl.isEqual xs ys = .ok (Spec.isEqual xs ys) := by
  simp only [Impl.isEqual, Spec.isEqual]
  split
  · rename_i h
    rcases h with h | h | h
    · simp [List.eq_nil_of_length_eq_zero h]
    · simp [List.eq_nil_of_length_eq_zero h]
    · simp [show xs ≠ ys from fun e => h (congrArg List.length e)]
  · rename_i h
    simp only [not_or, List.length_eq_zero_iff, Decidable.not_not] at h
    obtain ⟨hx, hy, hl⟩ := h
    rw [isEqualLoop_spec xs ys hl _ 0 (Nat.zero_add _)]
    simp [hx, hy]

theorem C03_uniqBy [DecidableEq κ] (g : α → κ) (xs : List α) : Impl.uniqBy g xs = Spec.uniqBy g xs := by
  rw [Impl.uniqBy, uniqByLoop_spec, firsts_nil_seen]; rfl

theorem C03_distinct [DecidableEq α] (z : α) (xs : List α) : Impl.distinct z xs = .ok (Spec.distinct xs) := by
  have h := distinctLoop_spec xs [] [] (mk xs.length z) (Nat.le_of_eq List.length_replicate.symm)
  simp only [firsts_nil_seen, List.nil_append, List.length_nil, Nat.zero_add] at h
  simp only [Impl.distinct]
  split
  · rw [h]
    simp only [bind_ok, reslice_prefix, pure_eq_ok]
    rfl
  · rw [List.eq_nil_of_length_eq_zero (l := xs) (by omega)]; rfl

theorem C03_filter (z : α) (fn : α → Nat → Bool) (xs : List α) :
    Impl.filter z fn xs = .ok (Spec.filter fn xs) := by
  have h : Impl.filterLoop fn xs 0 0 (mk xs.length z) = _ :=
    filterLoop_spec fn xs 0 [] (mk xs.length z) (Nat.le_of_eq List.length_replicate.symm) _ rfl
  rw [Impl.filter, h]
  simp only [List.nil_append, List.length_nil, Nat.zero_add, bind_ok, reslice_prefix, pure_eq_ok]
  rfl

theorem C03_reject (z : α) (fn : α → Nat → Bool) (xs : List α) :
    Impl.reject z fn xs = .ok (Spec.reject fn xs) := by
  simpa [Impl.reject, Spec.reject, Spec.filter] using C03_filter z (fun v i => !fn v i) xs

theorem C03_max (xs : List Int) : Impl.max xs = .ok (Spec.max xs) := by
  cases xs with
  | nil => rfl
  | cons x t =>
    rw [Spec.max, List.max?_cons', Option.getD_some]
    simp [Impl.max, getN, maxLoop_spec, Int.max_self]

theorem C03_min (xs : List Int) : Impl.min xs = .ok (Spec.min xs) := by
  cases xs with
  | nil => rfl
  | cons x t =>
    rw [Spec.min, List.min?_cons', Option.getD_some]
    simp [Impl.min, getN, minLoop_spec, Int.min_self]

theorem C03_minMax (xs : List Int) : Impl.minMax xs = .ok (Spec.minMax xs) := by
  cases xs with
  | nil => rfl
  | cons x t =>
    rw [Spec.minMax, Spec.min, Spec.max, List.max?_cons', List.min?_cons', Option.getD_some, Option.getD_some]
    simp [Impl.minMax, getN, minMaxLoop_spec, Int.max_self, Int.min_self]

theorem C03_dedupe [DecidableEq α] (xs : List α) : Impl.dedupe xs = .ok (Spec.dedupe xs) :=
  dedupeLoop_spec xs _ 0 [] (Nat.zero_add _)

theorem C03_reverse (z : α) (xs : List α) : Impl.reverse z xs = .ok (Spec.reverse xs) := by
  simpa [Impl.reverse, Spec.reverse, mk] using
    reverseLoop_spec xs xs.length [] (mk xs.length z) (Nat.zero_add _) (by simp [mk])

theorem C03_dropWhile (z : α) (f : Option (α → Bool)) (xs : List α) :
    Impl.dropWhile z f xs = .ok (Spec.dropWhile f xs) := by
  cases f with
  | none => rfl
  | some f => simpa [Impl.dropWhile, Spec.dropWhile] using dropWhileLoop_spec z f [] xs

theorem C03_concat (z : α) (mine : List α) (slices : List (Option (List α))) :
    Impl.concat z mine slices = .ok (Spec.concat mine slices) := by
  -- copying `mine` first is one more round of the loop over `slices`
  have h := concatLoop_spec (some mine :: slices) [] (mk (Impl.totalLenLoop slices mine.length) z)
    (by simp [mk, totalLenLoop_spec, Spec.flatten])
  rw [Impl.concatLoop] at h
  simp only [List.length_nil, Nat.zero_add, List.nil_append] at h
  simp only [Impl.concat, Spec.concat]
  rw [← bind_assoc, h]
  simp [mk, totalLenLoop_spec, Spec.flatten]

theorem C03_flatten (z : α) (slices : List (Option (List α))) :
    Impl.flatten z slices = .ok (Spec.flatten slices) := by
  simpa [Impl.flatten, Spec.flatten, Spec.concat, mk] using C03_concat z [] slices

/-- `Merge`: the result read at any key is the documented `b`-overrides-`a` lookup -/
theorem C03_merge [DecidableEq κ] (a b : Option (List (κ × ν))) (k : κ) :
    mget k (Impl.merge a b) = mget k (Spec.merge a b) := by
  cases a <;> cases b <;> simp [Impl.merge, Spec.merge, mget_copyInto, mget_append]

/-- … and it is a legitimate Go map (one binding per key) -/
theorem C03_merge_nodup [DecidableEq κ] (a b : Option (List (κ × ν))) :
    ((Impl.merge a b).map (·.1)).Nodup := by
  cases a <;> cases b <;> simp [Impl.merge, copyInto_nodup]

theorem C03_duplicateMap [DecidableEq κ] (m : List (κ × ν)) (k : κ) :
    mget k (Impl.duplicateMap m) = mget k (Spec.duplicateMap m) := by
  cases m <;> simp [Impl.duplicateMap, Spec.duplicateMap, mget_copyInto]

theorem C03_duplicateMap_nodup [DecidableEq κ] (m : List (κ × ν)) :
    ((Impl.duplicateMap m).map (·.1)).Nodup := by
  cases m <;> simp [Impl.duplicateMap, copyInto_nodup]

theorem C03_sliceToMap [DecidableEq κ] (d : ν) (xs : List κ) (k : κ) :
    mget k (Impl.sliceToMap d xs) = mget k (Spec.sliceToMap d xs) := by
  rw [Impl.sliceToMap, Spec.sliceToMap, sliceToMapLoop_spec]
  exact ((mget_map_key id (fun _ => d) xs k).trans (by rw [List.map_id]; rfl)).symm

theorem C03_sliceToMap_nodup [DecidableEq κ] (d : ν) (xs : List κ) :
    ((Impl.sliceToMap d xs).map (·.1)).Nodup :=
  List.foldlRecOn (b := []) xs _ (motive := fun m : List (κ × ν) => (m.map (·.1)).Nodup) List.nodup_nil fun _ hm x _ => by
    split
    · exact nodup_keys_mset _ _ _ hm
    · exact hm

/-- `Zip`: never panics; the result read at any key is `ks[i] ↦ vs[i]` with later duplicates winning;
    one binding per key -/
theorem C03_zip [DecidableEq κ] (ks : List κ) (vs : List ν) :
    ∃ m, Impl.zip ks vs = .ok m ∧ (∀ k, mget k m = mget k (Spec.zip ks vs)) ∧ (m.map (·.1)).Nodup := by
  simp only [Impl.zip, Spec.zip]
  split
  · rename_i h
    refine ⟨[], rfl, fun k => ?_, List.nodup_nil⟩
    rcases h with h | h <;> simp [List.eq_nil_of_length_eq_zero h, mget]
  · exact ⟨_, zipLoop_spec ks vs _ 0 [] (by simp only [List.drop_zero, List.length_zip]; split <;> omega),
      fun k => mget_copyInto k _ _, copyInto_nodup _ _ List.nodup_nil⟩

/-- `GroupBy`: at any key `k` the result holds exactly the elements with `grouper x = k`, in input order
    (no entry when there is none) -/
theorem C03_groupBy [DecidableEq κ] (g : α → κ) (xs : List α) (k : κ) :
    mget k (Impl.groupBy g xs) = mget k (Spec.groupBy g xs) := by
  rw [Impl.groupBy, Spec.groupBy, groupByLoop_spec, mget_map_key g (fun k' => xs.filter (fun y => g y = k'))]
  rfl

theorem C03_groupBy_nodup [DecidableEq κ] (g : α → κ) (xs : List α) :
    ((Impl.groupBy g xs).map (·.1)).Nodup :=
  List.foldlRecOn (b := []) xs _ (motive := fun m : List (κ × List α) => (m.map (·.1)).Nodup) List.nodup_nil
    fun _ hm _ _ => nodup_keys_mset _ _ _ hm

/-- `Range` (Go `int` = 64-bit two's complement) equals `lo, lo+hop, … < hi` whenever `hi + hop` does not
    overflow; outside that hypothesis `v += hop` can wrap and the Go loop does not terminate. -/
theorem C03_range (lo hi : Int) (hops : List Int) (hb : hi + hops.headD 1 ≤ 9223372036854775807)
    (hlo : -9223372036854775808 ≤ lo) :
    Impl.range lo hi hops = .ok (Spec.range lo hi hops) := by
  unfold Impl.range
  cases hops with
  | nil => exact rangeFrom_spec lo hi 1 (by decide) hb hlo
  | cons h t =>
    simp only [List.length_cons, gt_iff_lt, Nat.zero_lt_succ, if_true, getN, List.getElem?_cons_zero, bind_ok]
    split
    · rename_i hh; simp [Spec.range, hh]
    · rename_i hh; exact rangeFrom_spec lo hi h (Int.not_le.mp hh) hb hlo

theorem C03_splitEvery (size : Int) (xs : List α) : Impl.splitEvery size xs = Spec.splitEvery size xs := by
  unfold Impl.splitEvery Spec.splitEvery
  split
  · rfl
  · rename_i h
    have hs : size = ((size.toNat : Nat) : Int) := by omega
    have := splitLoop_spec size.toNat (by omega) xs.length xs 0 [] [] xs.length (Nat.zero_add _) (Nat.zero_le _)
      (fun e => h (Or.inr (by simp [show xs = [] from e]))) (Nat.le_refl _)
    rwa [if_neg (by omega), ← hs] at this

/-- `IsEqualMap` on Go maps (association lists with one binding per key, any iteration order) -/
theorem C03_isEqualMap [DecidableEq κ] [DecidableEq ν] (a b : List (κ × ν))
    (ha : (a.map (·.1)).Nodup) (hb : (b.map (·.1)).Nodup) :
    Impl.isEqualMap a b = Spec.isEqualMap a b := by
  simp only [Impl.isEqualMap, Spec.isEqualMap]
  split
  · rename_i hg
    rcases hg with h | h | h
    · simp [List.eq_nil_of_length_eq_zero h]
    · simp [List.eq_nil_of_length_eq_zero h]
    · simp [show a.isPerm b = false from Bool.eq_false_iff.mpr fun hp => h (List.isPerm_iff.mp hp).length_eq]
  · rename_i hg
    simp only [not_or, List.length_eq_zero_iff, Decidable.not_not] at hg
    obtain ⟨ha0, hb0, hl⟩ := hg
    -- equal length and no duplicates in `a`: inclusion is already equality of maps
    have hperm : a.Perm b ↔ ∀ p ∈ a, p ∈ b :=
      ⟨fun hp _ => hp.mem_iff.mp, fun hs => perm_of_nodup_subset (nodup_of_nodup_keys a ha) hs (Nat.le_of_eq hl.symm)⟩
    rw [isEqualMapLoop_spec, Bool.eq_iff_iff]
    simp [List.isPerm_iff, hperm, ha0, hb0]

/-- non-vacuity of `C03_range`: the hypotheses hold for ordinary arguments and the result is the doc example -/
example : Impl.range 3 7 [2] = .ok [3, 5] ∧ (7 : Int) + ([2] : List Int).headD 1 ≤ 9223372036854775807 := ⟨by rfl, by decide⟩

/-- outside the hypothesis of `C03_range` the model reports the runaway loop (`v += hop` wraps) -/
example : Impl.range 9223372036854775806 9223372036854775807 [2] = .error .hang := by rfl

/-- non-vacuity of `C03_isEqualMap`: two orders of the same map, unique keys -/
example : (([(1, 2), (2, 3)] : List (Nat × Nat)).map (·.1)).Nodup ∧ (([(2, 3), (1, 2)] : List (Nat × Nat)).map (·.1)).Nodup
    ∧ Impl.isEqualMap [(1, 2), (2, 3)] [(2, 3), (1, 2)] = true := by decide

/-- the pinned (pre-`fix:`) `DropLast` — no `count <= 0` guard — panics or exposes hidden capacity; the
    current model does neither (sanity check of the capacity model, a test, not a proof) -/
example : (Sl.mk [1, 2, 3] [8, 9]).reslice 0 (3 - (-1)) = .ok ⟨[1, 2, 3, 8], [9]⟩
    ∧ (Sl.mk [1, 2, 3] ([] : List Nat)).reslice 0 (3 - (-1)) = .error .bounds
    ∧ (Impl.dropLast (-1) (Sl.mk [1, 2, 3] [8, 9])).map Sl.vis = .ok [1, 2, 3] := ⟨by rfl, by rfl, by rfl⟩

/-- the recursive definition used as the oracle for `Dedupe` is the standard `List.eraseReps` -/
theorem C03_dedupe_spec_eq_eraseReps [DecidableEq α] (xs : List α) : Spec.dedupe xs = xs.eraseReps := by
  cases xs with
  | nil => simp [Spec.dedupe, List.eraseReps, List.eraseRepsBy]
  | cons a t => simp [List.eraseReps, List.eraseRepsBy, eraseRepsLoop_eq]

/-- the chunks of `Spec.chunks` concatenate to the input, none is empty and none is longer than `k` -/
theorem C03_chunks_flatten (k : Nat) (hk : 1 ≤ k) (fuel : Nat) (xs : List α) (hf : xs.length ≤ fuel) :
    (Spec.chunks k fuel xs).flatten = xs ∧ ∀ c ∈ Spec.chunks k fuel xs, c ≠ [] ∧ c.length ≤ k := by
  induction fuel generalizing xs with
  | zero => rw [List.eq_nil_of_length_eq_zero (Nat.le_zero.mp hf)]; simp [Spec.chunks]
  | succ f ih =>
    rw [Spec.chunks]
    split
    · rename_i h; rw [List.isEmpty_iff.mp h]; simp
    · rename_i h
      have hpos : 0 < xs.length := List.length_pos_iff.mpr (fun e => h (List.isEmpty_iff.mpr e))
      obtain ⟨h1, h2⟩ := ih (xs.drop k) (by rw [List.length_drop]; omega)
      refine ⟨by rw [List.flatten_cons, h1, List.take_append_drop], fun c hc => ?_⟩
      rcases List.mem_cons.mp hc with rfl | hc
      · exact ⟨fun e => by rcases List.take_eq_nil_iff.mp e with e | e <;> simp_all, List.length_take_le _ _⟩
      · exact h2 c hc

/-- `Keys` for every iteration order `m'` of the map `m`: a permutation of the keys -/
theorem C03_keys_perm (z : κ) (m m' : List (κ × ν)) (h : m'.Perm m) :
    ∃ ks, Impl.keys z m' = .ok ks ∧ ks.Perm (Spec.keys m) :=
  ⟨_, C03_keys z m', h.map _⟩

/-- `Values` for every iteration order: the same multiset of values -/
theorem C03_values_perm (z : ν) (m m' : List (κ × ν)) (h : m'.Perm m) :
    ∃ vs, Impl.values z m' = .ok vs ∧ vs.Perm (Spec.values m) :=
  ⟨_, C03_values z m', h.map _⟩

/-- non-vacuity: a two-entry map in the other iteration order -/
example : ([(2, 'b'), (1, 'a')] : List (Nat × Char)).Perm [(1, 'a'), (2, 'b')] := by decide

/-! ## Storage level (`Model/C03Heap.lean`): frame, freshness, view containment, refinement to `Impl.*` -/

variable {γ : Type}

theorem C03_heap_map (z : γ) (fn : γ → γ) (w : World γ) (s : Hdr) :
    FreshList w (H.map z fn w s) (Impl.map z fn (w.read s)) (Spec.map fn (w.read s)) :=
  freshList_bind (C03_map z fn _) (makeFill_fresh w z (Nat.le_of_eq (List.length_map _)))

theorem C03_heap_mapIndexed (z : γ) (fn : γ → Nat → γ) (w : World γ) (s : Hdr) :
    FreshList w (H.mapIndexed z fn w s) (Impl.mapIndexed z fn (w.read s)) (Spec.mapIndexed fn (w.read s)) :=
  freshList_bind (C03_mapIndexed z fn _) (makeFill_fresh w z (Nat.le_of_eq List.length_mapIdx))

theorem C03_heap_filter (z : γ) (fn : γ → Nat → Bool) (w : World γ) (s : Hdr) :
    FreshList w (H.filter z fn w s) (Impl.filter z fn (w.read s)) (Spec.filter fn (w.read s)) :=
  freshList_bind (C03_filter z fn _) (makeFill_fresh w z (spec_filter_length fn _))

theorem C03_heap_reject (z : γ) (fn : γ → Nat → Bool) (w : World γ) (s : Hdr) :
    FreshList w (H.reject z fn w s) (Impl.reject z fn (w.read s)) (Spec.reject fn (w.read s)) :=
  freshList_bind (C03_reject z fn _) (makeFill_fresh w z (spec_filter_length (fun v i => !fn v i) _))

theorem C03_heap_distinct [DecidableEq γ] (z : γ) (w : World γ) (s : Hdr) :
    FreshList w (H.distinct z w s) (Impl.distinct z (w.read s)) (Spec.distinct (w.read s)) := by
  have := length_firsts_le id [] (w.read s)
  rw [firsts_nil_seen] at this
  exact freshList_bind (C03_distinct z _) (makeFill_fresh w z this)

theorem C03_heap_reverse (z : γ) (w : World γ) (s : Hdr) :
    FreshList w (H.reverse z w s) (Impl.reverse z (w.read s)) (Spec.reverse (w.read s)) :=
  freshList_bind (C03_reverse z _) (makeFill_fresh w z (Nat.le_of_eq List.length_reverse))

theorem C03_heap_keys (z : γ) (w : World γ) (m : Nat) :
    FreshList w (H.keys z w m) (Impl.keys z (w.mapAt m)) (Spec.keys (w.mapAt m)) :=
  freshList_bind (C03_keys z _) (makeFill_fresh w z (Nat.le_of_eq (List.length_map _)))

theorem C03_heap_values (z : γ) (w : World γ) (m : Nat) :
    FreshList w (H.values z w m) (Impl.values z (w.mapAt m)) (Spec.values (w.mapAt m)) :=
  freshList_bind (C03_values z _) (makeFill_fresh w z (Nat.le_of_eq (List.length_map _)))

theorem C03_heap_dropWhile (z : γ) (f : Option (γ → Bool)) (w : World γ) (s : Hdr) :
    FreshList w (H.dropWhile z f w s) (Impl.dropWhile z f (w.read s)) (Spec.dropWhile f (w.read s)) :=
  freshList_bind (C03_dropWhile z f _) (makeFill_fresh w z (Nat.le_refl _))

theorem C03_heap_concat (z : γ) (w : World γ) (mine : Hdr) (slices : List (Option Hdr)) :
    FreshList w (H.concat z w mine slices) (Impl.concat z (w.read mine) (slices.map (H.readOpt w)))
      (Spec.concat (w.read mine) (slices.map (H.readOpt w))) :=
  freshList_bind (C03_concat z _ _) (makeFill_fresh w z (Nat.le_refl _))

theorem C03_heap_flatten (z : γ) (w : World γ) (slices : List (Option Hdr)) :
    FreshList w (H.flatten z w slices) (Impl.flatten z (slices.map (H.readOpt w)))
      (Spec.flatten (slices.map (H.readOpt w))) :=
  freshList_bind (C03_flatten z _) (makeFill_fresh w z (Nat.le_refl _))

theorem C03_heap_dedupe [DecidableEq γ] (z : γ) (extra : Nat) (w : World γ) (s : Hdr) :
    FreshList w (H.dedupe z extra w s) (Impl.dedupe (w.read s)) (Spec.dedupe (w.read s)) :=
  freshList_bind (C03_dedupe _) (appendBuilt_fresh w _ extra _)

theorem C03_heap_duplicateSlice (z : γ) (extra : Nat) (w : World γ) (s : Hdr) :
    FreshList w (H.duplicateSlice z extra w s) (Impl.duplicateSlice (w.sl s)) (Spec.duplicateSlice (w.read s)) :=
  freshList_bind (C03_duplicateSlice _) (appendBuilt_fresh w _ extra _)

theorem C03_heap_dropEq [DecidableEq γ] (z : γ) (extra : Nat) (num : γ) (w : World γ) (s : Hdr) :
    FreshList w (.ok (H.dropEq z extra num w s)) (.ok (Impl.dropEq num (w.read s))) (Spec.dropEq num (w.read s)) := by
  rw [H.dropEq, C03_dropEq]
  exact appendBuilt_fresh w z extra _

theorem C03_heap_uniqBy [DecidableEq γ] (z : γ) (extra : Nat) (g : γ → γ) (w : World γ) (s : Hdr) :
    FreshList w (.ok (H.uniqBy z extra g w s)) (.ok (Impl.uniqBy g (w.read s))) (Spec.uniqBy g (w.read s)) := by
  rw [H.uniqBy, C03_uniqBy]
  exact appendBuilt_fresh w z extra _

theorem C03_heap_prepend (z : γ) (extra : Nat) (x : γ) (w : World γ) (s : Hdr) :
    FreshList w (.ok (H.prepend z extra x w s)) (.ok (Impl.prepend x (w.read s))) (Spec.prepend x (w.read s)) := by
  rw [H.prepend, C03_prepend]
  exact appendBuilt_fresh w z extra _

theorem C03_heap_drop (z : γ) (count : Int) (w : World γ) (s : Hdr) (hwf : w.WF s) :
    ViewOf w s (H.drop z count w s) (Impl.drop count (w.sl s)) (Spec.drop count (w.read s)) := by
  refine viewOf_of_impl (C03_drop count (w.sl s)) ?_
  simp only [H.drop, Impl.drop, sl_len w s hwf]
  split
  · exact ⟨_, viewOf_self hwf⟩
  · split
    · exact ⟨_, viewOf_empty z⟩
    · exact ⟨_, viewOf_reslice hwf (by omega) (by omega) (Int.le_refl _)⟩

theorem C03_heap_tail (z : γ) (w : World γ) (s : Hdr) (hwf : w.WF s) :
    ViewOf w s (H.tail z w s) (Impl.tail (w.sl s)) (Spec.tail (w.read s)) := by
  simpa [H.tail, Impl.tail, Spec.tail, Spec.drop] using C03_heap_drop z 1 w s hwf

theorem C03_heap_dropLast (z : γ) (count : Int) (w : World γ) (s : Hdr) (hwf : w.WF s) :
    ViewOf w s (H.dropLast z count w s) (Impl.dropLast count (w.sl s)) (Spec.dropLast count (w.read s)) := by
  refine viewOf_of_impl (C03_dropLast count (w.sl s)) ?_
  simp only [H.dropLast, Impl.dropLast, sl_len w s hwf]
  split
  · exact ⟨_, viewOf_empty z⟩
  · split
    · exact ⟨_, viewOf_self hwf⟩
    · exact ⟨_, viewOf_reslice hwf (Int.le_refl 0) (by omega) (by omega)⟩

theorem C03_heap_take (count : Int) (w : World γ) (s : Hdr) (hwf : w.WF s) :
    ViewOf w s (H.take count w s) (Impl.take count (w.sl s)) (Spec.take count (w.read s)) := by
  refine viewOf_of_impl (C03_take count (w.sl s)) ?_
  simp only [H.take, Impl.take, sl_len w s hwf]
  split
  · exact ⟨_, viewOf_self hwf⟩
  · exact ⟨_, viewOf_reslice hwf (Int.le_refl 0) (by omega) (by omega)⟩

theorem C03_heap_takeLast (count : Int) (w : World γ) (s : Hdr) (hwf : w.WF s) :
    ViewOf w s (H.takeLast count w s) (Impl.takeLast count (w.sl s)) (Spec.takeLast count (w.read s)) := by
  refine viewOf_of_impl (C03_takeLast count (w.sl s)) ?_
  simp only [H.takeLast, Impl.takeLast, sl_len w s hwf]
  split
  · exact ⟨_, viewOf_self hwf⟩
  · exact ⟨_, viewOf_reslice hwf (by omega) (by omega) (Int.le_refl _)⟩

/-- `Partition`: frame; both result slices are fresh; their contents are the documented pair -/
theorem C03_heap_partition (z : γ) (extra : Nat) (p : γ → Bool) (w : World γ) (s : Hdr) :
    Frame w (H.partition z extra p w s).1
      ∧ (∀ h ∈ (H.partition z extra p w s).2, FreshHdr w h)
      ∧ (H.partition z extra p w s).2.map ((H.partition z extra p w s).1.read) = Spec.partition p (w.read s) := by
  obtain ⟨h1, h2, h3⟩ := appendBuiltMany_ok w z extra (Impl.partition p (w.read s))
  exact ⟨h1, h2, C03_partition p _ ▸ h3⟩

/-- `SplitEvery`: frame; every group is either the parameter's own header (`[][]T{list}`, the `size ≤ 0` /
    `len ≤ 1` branch — a view) or fresh; contents are the documented chunks -/
theorem C03_heap_splitEvery (z : γ) (extra : Nat) (size : Int) (w : World γ) (s : Hdr) :
    Frame w (H.splitEvery z extra size w s).1
      ∧ (∀ h ∈ (H.splitEvery z extra size w s).2, h = s ∨ FreshHdr w h)
      ∧ (H.splitEvery z extra size w s).2.map ((H.splitEvery z extra size w s).1.read) = Spec.splitEvery size (w.read s) := by
  unfold H.splitEvery
  split
  · rename_i hd
    exact ⟨Frame.refl w, by simp, by simp [Spec.splitEvery, hd]⟩
  · obtain ⟨h1, h2, h3⟩ := appendBuiltMany_ok w z extra (Impl.splitEvery size (w.read s))
    exact ⟨h1, fun h hh => Or.inr (h2 h hh), C03_splitEvery size _ ▸ h3⟩

/-- `GroupBy`: frame; every group slice is fresh; keys and group contents are those of `Impl.groupBy`
    (whose lookups are the documented ones, `C03_groupBy`) -/
theorem C03_heap_groupBy [DecidableEq γ] (z : γ) (extra : Nat) (g : γ → γ) (w : World γ) (s : Hdr) :
    Frame w (H.groupBy z extra g w s).1
      ∧ (∀ kh ∈ (H.groupBy z extra g w s).2, FreshHdr w kh.2)
      ∧ (H.groupBy z extra g w s).2.map (fun kh => (kh.1, (H.groupBy z extra g w s).1.read kh.2)) = Impl.groupBy g (w.read s) := by
  obtain ⟨h1, h2, h3⟩ := appendBuiltMany_ok w z extra ((Impl.groupBy g (w.read s)).map (·.2))
  refine ⟨h1, fun kh hkh => h2 kh.2 (List.of_mem_zip hkh).2, ?_⟩
  -- zipping the keys with the headers and reading them is zipping the keys with the groups
  exact List.zip_map_right.symm.trans ((congrArg _ h3).trans (List.zip_of_prod rfl rfl).symm)

theorem C03_heap_zip [DecidableEq γ] (w : World γ) (s1 s2 : Hdr) :
    ∃ out, H.zip w s1 s2 = .ok out ∧ Impl.zip (w.read s1) (w.read s2) = .ok (out.1.mapAt out.2)
      ∧ FreshMap w out (out.1.mapAt out.2)
      ∧ ∀ k, mget k (out.1.mapAt out.2) = mget k (Spec.zip (w.read s1) (w.read s2)) := by
  obtain ⟨m, hm, hget, _⟩ := C03_zip (w.read s1) (w.read s2)
  obtain ⟨f, fr, rd⟩ := allocMap_ok w m
  exact ⟨w.allocMap m, by simp [H.zip, hm], by rw [hm, rd], ⟨f, fr, rfl⟩, fun k => rd.symm ▸ hget k⟩

theorem C03_heap_merge [DecidableEq γ] (w : World γ) (m1 m2 : Option Nat) :
    FreshMap w (H.merge w m1 m2) (Impl.merge (H.mapOpt w m1) (H.mapOpt w m2)) :=
  allocMap_ok w _

theorem C03_heap_sliceToMap [DecidableEq γ] (d : γ) (w : World γ) (s : Hdr) :
    FreshMap w (H.sliceToMap d w s) (Impl.sliceToMap d (w.read s)) :=
  allocMap_ok w _

theorem C03_heap_duplicateMap [DecidableEq γ] (w : World γ) (m : Nat) :
    FreshMap w (H.duplicateMap w m) (Impl.duplicateMap (w.mapAt m)) :=
  allocMap_ok w _

theorem C03_heap_range (extra : Nat) (lo hi : Int) (hops : List Int) (w : World Int)
    (hb : hi + hops.headD 1 ≤ 9223372036854775807) (hlo : -9223372036854775808 ≤ lo) :
    FreshList w (H.range extra lo hi hops w) (Impl.range lo hi hops) (Spec.range lo hi hops) :=
  freshList_bind (C03_range lo hi hops hb hlo) (appendBuilt_fresh w _ extra _)

/-- what the frame clause means for a caller: every slice header and map that existed before the call
    reads exactly as before (visible part, hidden capacity, map contents) -/
theorem C03_heap_frame_reads {w w' : World γ} (hf : Frame w w') :
    (∀ s : Hdr, s.arr < w.arrs.length → w'.read s = w.read s ∧ w'.hidden s = w.hidden s)
      ∧ (∀ m, m < w.maps.length → w'.mapAt m = w.mapAt m) :=
  ⟨fun s hs => hf.read s hs, hf.maps⟩

/-- a fresh header is disjoint from every well-formed pre-existing header -/
theorem C03_heap_fresh_disjoint (w : World γ) (h s : Hdr) (hh : FreshHdr w h) (hs : w.WF s) : h.arr ≠ s.arr := by
  have := hs.1
  unfold FreshHdr at hh
  omega

/-- non-vacuity: a two-array world, a well-formed header with spare capacity -/
example : (⟨[[1, 2, 3, 8, 9], [7]], []⟩ : World Nat).WF ⟨0, 0, 3, 5⟩ := by simp [World.WF, World.arrAt]

end FpgoVerif.C03
