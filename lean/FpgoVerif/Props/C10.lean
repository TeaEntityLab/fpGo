import FpgoVerif.Proofs.C10Map
import FpgoVerif.Proofs.C10Skel
import FpgoVerif.Gen.C10Facts
/-! Property theorems for C10 — "Publisher delivers each value exactly once per live subscription, in
    order".  All `∀ s, Reach grow s → …` statements quantify over every schedule of every number of
    goroutines, every re-entrant callback script (a goroutine inside a callback may start any
    operation), and every slice growth policy `grow`; `Reach` is the closure of `step true`, the very
    function the driver executes (`C10_run_reach`).

    Reading of the ghost fields of a Publish call `f` (set by `step`, never read by it):
    `f.snap` = registered subscriptions at the snapshot (the call's linearisation point; a
    subscription registered before the call began is registered before the snapshot, an Unsubscribe
    completed before the call began is completed before the snapshot), `f.n0` = ids below it were
    handed out before the snapshot, `f.done0` = Unsubscribe calls completed before the snapshot,
    `f.dl` = the subscriptions whose OnNext this call invoked (or posted to the handler), in order;
    `r.regEnd` = the registered subscriptions when the call returned.  Ids are handed out in
    subscription order, so `<` on ids is subscription order. -/
namespace FpgoVerif.C10

/-- the driver's executions are `Reach`able: running any action list with `step true` from `init` -/
theorem C10_run_reach (grow : Nat → Nat) (acts : List Act) (s : State)
    (h : run true grow init acts = some s) : Reach grow s :=
  reach_of_run grow acts init s .init h

/-- **Key lemma**: while a Publish is running, the cells its snapshot header denotes are never
    overwritten — `append` writes only at index ≥ the snapshot length or into a fresh array, the
    repaired Unsubscribe allocates — and what it has delivered is exactly the prefix of the snapshot it has
    walked, minus the subscriptions without OnNext. -/
theorem C10_snapshot_stable (grow : Nat → Nat) (s : State) (r : Reach grow s) (t : Nat) (f : PubF)
    (hf : .pub f ∈ s.stacks t) :
    content s.heap f.h = f.snap ∧ f.dl = (f.snap.take f.k).filter (fun x => !s.silent x) := by
  have := (Inv_reach grow r).frames t _ hf
  exact ⟨this.same, this.dl⟩

/-- **C10_once** — for every finished Publish call `r`:
    (1) a subscription (with an OnNext) registered before the call and still registered when it ends was invoked
        exactly once;
    (2) a subscription whose Unsubscribe completed before the call was never invoked;
    (3) nobody was invoked twice; (4) invocations happened in subscription order;
    (5) only subscriptions registered before the call were invoked (one added during the call is not, a
        removed one may be — "only the subscription being added or removed may or may not see it");
    (6) a subscription without OnNext (zero-value Subscription) receives nothing — and does not disturb the others:
    in fact (7) the invocations are exactly the snapshot minus the subscriptions without OnNext. -/
theorem C10_once (grow : Nat → Nat) (s : State) (hr : Reach grow s) (r : PubRec) (hmem : r ∈ s.ended) :
    (∀ x, 0 < x → x < r.f.n0 → x ∈ r.regEnd → s.silent x = false → r.f.dl.count x = 1) ∧
    (∀ x ∈ r.f.done0, r.f.dl.count x = 0) ∧
    (∀ x, r.f.dl.count x ≤ 1) ∧
    r.f.dl.Pairwise (· < ·) ∧
    (∀ x ∈ r.f.dl, 0 < x ∧ x < r.f.n0) ∧
    (∀ x, s.silent x = true → r.f.dl.count x = 0) ∧
    r.f.dl = r.f.snap.filter (fun x => !s.silent x) := by
  have ok := (Inv_reach grow hr).ended r hmem
  rw [ok.all]
  have ⟨once, hs, notDone, old⟩ := ok.static.sublist (l := r.f.snap.filter (fun x => !s.silent x)) List.filter_sublist
  refine ⟨fun x h0 hx hreg hsil => ?_, notDone, once, hs, old, fun x hsil => ?_, rfl⟩
  · rw [count_of_sorted hs, if_pos (List.mem_filter.2 ⟨ok.kept x h0 hx hreg, by simp [hsil]⟩)]
  · rw [count_of_sorted hs, if_neg fun h => by simp [hsil] at h]

/-- **C10_once_log** — the same statement read off the GLOBAL log of all deliveries (`s.log`: one entry per
    OnNext invocation / Post, whoever made it): the entries that belong to a finished Publish call `r`
    (`dlOf s.log r.f.pid`) are exactly its snapshot minus the subscriptions without OnNext, hence (1) exactly
    once for a subscription registered before and after, (2) never after a completed Unsubscribe, (3) at most
    once, (4) in subscription order.  Call ids are unique among live and finished calls (`PInv`). -/
theorem C10_once_log (grow : Nat → Nat) (s : State) (hr : Reach grow s) (r : PubRec) (hmem : r ∈ s.ended) :
    dlOf s.log r.f.pid = r.f.snap.filter (fun x => !s.silent x) ∧
    (∀ x, 0 < x → x < r.f.n0 → x ∈ r.regEnd → s.silent x = false → (dlOf s.log r.f.pid).count x = 1) ∧
    (∀ x ∈ r.f.done0, (dlOf s.log r.f.pid).count x = 0) ∧
    (∀ x, (dlOf s.log r.f.pid).count x ≤ 1) ∧
    (dlOf s.log r.f.pid).Pairwise (· < ·) := by
  have h := C10_once grow s hr r hmem
  rw [((PInv_reach grow hr).fin r hmem).1]
  exact ⟨h.2.2.2.2.2.2, h.1, h.2.1, h.2.2.1, h.2.2.2.1⟩

/-- while a Publish is running, its part of the global log is the walked prefix of the snapshot (minus the
    subscriptions without OnNext) -/
theorem C10_log_running (grow : Nat → Nat) (s : State) (hr : Reach grow s) (t : Nat) (f : PubF)
    (hf : .pub f ∈ s.stacks t) : dlOf s.log f.pid = (f.snap.take f.k).filter (fun x => !s.silent x) := by
  rw [((PInv_reach grow hr).live t f hf).1]
  exact ((Inv_reach grow hr).frames t _ hf).dl

/-- at every moment of a running Publish: nobody invoked twice, subscription order, only snapshot members -/
theorem C10_once_running (grow : Nat → Nat) (s : State) (hr : Reach grow s) (t : Nat) (f : PubF)
    (hf : .pub f ∈ s.stacks t) :
    (∀ x, f.dl.count x ≤ 1) ∧ f.dl.Pairwise (· < ·) ∧ (∀ x ∈ f.done0, f.dl.count x = 0) ∧
    (∀ x ∈ f.dl, 0 < x ∧ x < f.n0) := by
  have ok : PubOK s.heap s.subs s.nextId s.silent f := (Inv_reach grow hr).frames t _ hf
  rw [ok.dl]
  exact ok.static.sublist (List.filter_sublist.trans (List.take_sublist _ _))

/-- an Unsubscribe that has returned leaves the subscription unregistered for ever (ids are never reused),
    and the registered list is always duplicate-free and in subscription order -/
theorem C10_unsubscribed_stays_out (grow : Nat → Nat) (s : State) (hr : Reach grow s) :
    (∀ x ∈ s.unsubDone, x ∉ content s.heap s.subs) ∧ (content s.heap s.subs).Pairwise (· < ·) := by
  have inv := Inv_reach grow hr
  exact ⟨fun x hx => (inv.done x hx).2.2, inv.wf.sorted⟩

/-- **C10_map_partial** — Map(fn) registers a forwarding subscription `x` whose OnNext(v) is
    `next.Publish(fn v)` (closing theorem `C10_skel_Map`: `func{callfn(fn) call(Publish)} call(Subscribe)`).
    For every finished Publish(v) of the origin, the global log contains exactly ONE delivery to `x`, and it
    carries the value `v` of that call — so `next.Publish(fn v)` is called exactly once per `v` of the origin.
    The composition with the derived publisher's own transition system (its C10_once) is `C10_map_compose`. -/
theorem C10_map_partial (grow : Nat → Nat) (s : State) (hr : Reach grow s) (r : PubRec) (hmem : r ∈ s.ended)
    (x : Nat) (h0 : 0 < x) (hbefore : x < r.f.n0) (hstill : x ∈ r.regEnd) (hfn : s.silent x = false) :
    ((s.log.filter (fun e => e.1 = r.f.pid ∧ e.2.1 = x)).map (fun e => e.2.2.1)) = [r.f.val] := by
  have hcount := (C10_once_log grow s hr r hmem).2.1 x h0 hbefore hstill hfn
  rw [count_dlOf] at hcount
  -- one matching log entry, and every log entry of the call carries its value
  show _ = List.replicate 1 r.f.val
  refine List.eq_replicate_iff.2 ⟨by rw [List.length_map]; exact hcount, fun v hv => ?_⟩
  obtain ⟨e, he, rfl⟩ := List.mem_map.1 hv
  have hm := List.mem_filter.1 he
  exact ((PInv_reach grow hr).fin r hmem).2 e hm.1 (of_decide_eq_true hm.2).1

/-- **C10_map_compose** — Map(fn) as a system of two publishers (`MapSys`, `Proofs/C10Map.lean`): origin `P`, derived
    publisher `Q`, every action of either one a `step true` of that publisher (so `P` and `Q` are `Reach`able and all
    theorems above hold for both), plus the coupling of `Map`: each delivery of `P` to the forwarding subscription `x`
    obliges its callback to begin `Q.Publish(fn v)` (`fwdBegin`, at any later moment, in any order).  For every reachable
    state and every finished `P.Publish(v)` (call `r`) with `x` registered before the call and still registered at its end:
    (1) there is exactly ONE forward for (that call, v): still owed by the running callback (`pend`) or begun (`fwd`);
    (2) the begun forwards are pairwise distinct Publish calls of `Q`, each begun with the value `fn v` of its origin
        delivery, and when such a call has finished, what it delivered is exactly its snapshot of `Q`'s subscriptions
        (minus those without OnNext), every delivery carrying `fn v` — i.e. `C10_once` for the derived publisher.
    What remains outside Lean: that the callback of `x` is `next.Publish(fn(in))` and nothing else (closing theorem
    `C10_skel_Map`), and that it is the goroutine running the callback that begins the forward (the system lets any
    goroutine do it: an over-approximation). -/
theorem C10_map_compose (grow : Nat → Nat) (fn : Int → Int) (m : MapSys) (hm : MReach grow fn m)
    (r : PubRec) (hmem : r ∈ m.P.ended) (h0 : 0 < m.x) (hbefore : m.x < r.f.n0) (hstill : m.x ∈ r.regEnd)
    (hfn : m.P.silent m.x = false) :
    (m.pend ++ m.fwd.map (fun e => (e.1, e.2.1))).count (r.f.pid, r.f.val) = 1 ∧
    (m.fwd.map (fun e => e.2.2)).Nodup ∧
    (∀ e ∈ m.fwd, e.2.2 < m.Q.nextPid ∧
      (∀ u f, .pub f ∈ m.Q.stacks u → f.pid = e.2.2 → f.val = fn e.2.1) ∧
      (∀ rq ∈ m.Q.ended, rq.f.pid = e.2.2 →
        rq.f.val = fn e.2.1 ∧
        dlOf m.Q.log rq.f.pid = rq.f.snap.filter (fun y => !m.Q.silent y) ∧
        (∀ ev ∈ m.Q.log, ev.1 = rq.f.pid → ev.2.2.1 = fn e.2.1))) := by
  have inv := MInv_reach hm
  refine ⟨?_, inv.qnd, fun e he => ⟨inv.qlt e he, inv.qlive e he, fun rq hrq hpid => ?_⟩⟩
  · rw [← inv.perm.count_eq, count_xlog]
    have := C10_map_partial grow m.P inv.rp r hmem m.x h0 hbefore hstill hfn
    rw [this]; simp
  · have hv := inv.qfin e he rq hrq hpid
    refine ⟨hv, (C10_once_log grow m.Q inv.rq rq hrq).1, fun ev hev hp => ?_⟩
    rw [← hv]; exact ((PInv_reach grow inv.rq).fin rq hrq).2 ev hev hp

/-- S subscribes to P, Map (fn = (· + 1)), a subscriber on Q; P.Publish(7): the forwarder's delivery is forwarded as
    Q.Publish(8), which delivers 8 to Q's subscriber; both calls finish -/
def mapWitness : List MAct :=
  [.p (.subscribe 0), .map 0, .q (.subscribe 0), .p (.pubBegin 0 7), .p (.deliver 0), .p (.cbReturn 0),
   .p (.deliver 0), .fwdBegin 0 0 7, .q (.deliver 0), .q (.cbReturn 0), .q (.pubEnd 0), .p (.cbReturn 0), .p (.pubEnd 0)]

/-- non-vacuity of `C10_map_compose` (evaluated by the kernel): forwarding subscription x = 2, nothing pending, one forward
    (P's call 0, value 7, Q's call 0), Q's finished call published 8 to its subscriber 1, Q's log has that one delivery -/
theorem C10_witness_map :
    msummary (mrun goGrow (· + 1) MapSys.init mapWitness) =
      some (2, [], [(0, 7, 0)], [(8, [1])], [(0, 1, 8, false)]) := by rfl

example : ∃ m, MReach goGrow (· + 1) m ∧ m.x = 2 ∧ m.fwd = [(0, 7, 0)] ∧ m.Q.log = [(0, 1, 8, false)] := by
  obtain ⟨m, hrun, hw⟩ := Option.map_eq_some_iff.1 C10_witness_map
  simp only [Prod.mk.injEq] at hw
  exact ⟨m, mreach_of_run goGrow _ _ _ m .init hrun, hw.1, hw.2.2.1, hw.2.2.2.2⟩

/-- **C10_handler** — with SubscribeOn(h) a delivery is exactly one Post (the `deliver` step appends the
    subscription to `f.dl` and the triple to `posted`/`mailbox` in one step, so `C10_once` counts Posts), and
    the handler runs the posted deliveries in FIFO order, none lost, none duplicated:
    posted = run by the handler ++ still queued.  (That the handler eventually runs them is C12.) -/
theorem C10_handler (grow : Nat → Nat) (s : State) (hr : Reach grow s) :
    s.posted.reverse = s.hlog.reverse ++ s.mailbox :=
  (Inv_reach grow hr).hq

/-! ### the pre-fix code (`fixed = false`: in-place compaction) is refuted -/

/-- [A,B,C]; A unsubscribes itself inside its callback -/
def prefixWitness : List Act :=
  [.subscribe 0, .subscribe 0, .subscribe 0, .pubBegin 0 7, .deliver 0, .unsubBegin 0 1, .unsubStep 0, .unsubStep 0,
   .cbReturn 0, .deliver 0, .cbReturn 0, .deliver 0, .cbReturn 0, .pubEnd 0]

/-- the pre-fix Unsubscribe: snapshot [A,B,C], invoked A, C, C (B skipped, C twice) -/
theorem C10_prefix_in_place_compaction_refuted :
    summary (run false goGrow init prefixWitness) = some ([1, 2, 3], [1, 3, 3], [2, 3]) := by decide

/-- … so the exactly-once statement is false for the pre-fix mechanism -/
theorem C10_prefix_not_once :
    ¬ ∀ acts s, run false goGrow init acts = some s → ∀ r ∈ s.ended, r.f.dl = r.f.snap := by
  intro h
  obtain ⟨s, r, hrun, hr, h1, h2, _⟩ := summary_some C10_prefix_in_place_compaction_refuted
  have := h prefixWitness s hrun r hr
  rw [h1, h2] at this
  cases this

/-- non-vacuity: the same history on the repaired code: snapshot [A,B,C], invoked A, B, C; A is gone afterwards -/
theorem C10_witness_fixed :
    summary (run true goGrow init prefixWitness) = some ([1, 2, 3], [1, 2, 3], [2, 3]) := by decide

example : ∃ s, Reach goGrow s ∧ ∃ r ∈ s.ended, r.f.snap = [1, 2, 3] ∧ r.regEnd = [2, 3] := by
  obtain ⟨s, r, hrun, hr, h1, _, h3⟩ := summary_some C10_witness_fixed
  exact ⟨s, C10_run_reach goGrow _ s hrun, r, hr, h1, h3⟩

/-- non-vacuity for the nil-OnNext clause: [A, Z (zero-value Subscription), C] — invoked A, C; the loop goes on past Z -/
theorem C10_witness_nil :
    summary (run true goGrow init
      [.subscribe 0, .subscribeNil 0, .subscribe 0, .pubBegin 0 7, .deliver 0, .cbReturn 0, .deliver 0,
       .deliver 0, .cbReturn 0, .pubEnd 0]) = some ([1, 2, 3], [1, 3], [1, 2, 3]) := by decide

/-! ### closing theorems over the regenerated protocol skeletons and slice facts of publisher.go -/

theorem C10_skel_doSubscribeSafe : Gen.skeletonOf "PublisherDef.doSubscribeSafe" =
    some "call(subscribeM.Lock) callfn(fn) call(subscribeM.Unlock)" := skeletons_agree.1

theorem C10_skel_Publish : Gen.skeletonOf "PublisherDef.Publish" =
    some "func{get(subscribers) set(subscribers)} call(doSubscribeSafe) range[]{if[]{func{callfn(OnNext)} if[get(subOn)]{get(subOn) call(subOn.Post)}else{callfn(doSub)}}}" := skeletons_agree.2.1

theorem C10_skel_Subscribe : Gen.skeletonOf "PublisherDef.Subscribe" =
    some "func{get(subscribers) call(append) set(subscribers)} call(doSubscribeSafe) return" := skeletons_agree.2.2.1

theorem C10_skel_Unsubscribe : Gen.skeletonOf "PublisherDef.Unsubscribe" =
    some "func{get(subscribers) set(subscribers) range[]{if[]{call(append) call(append) set(subscribers) break}}} call(doSubscribeSafe) if[]{call(Unsubscribe)}" := skeletons_agree.2.2.2.1

theorem C10_skel_Map : Gen.skeletonOf "PublisherDef.Map" =
    some "call(PublisherNewGenerics) func{callfn(fn) call(Publish)} call(Subscribe) return" := skeletons_agree.2.2.2.2.1

theorem C10_skel_SubscribeOn : Gen.skeletonOf "PublisherDef.SubscribeOn" = some "set(subOn) return" := skeletons_agree.2.2.2.2.2

/-- Unsubscribe's removal allocates: both appends go into a fresh `make(…, 0, …)`, which is what is stored -/
theorem C10_fact_unsubscribe_copies :
    Gen.c10Fact "Unsubscribe.appendFirstOperands" = some "fresh-make/locked,fresh-make/locked" ∧
    Gen.c10Fact "Unsubscribe.storesIntoField" = some "fresh-make/locked" ∧
    Gen.c10Fact "Unsubscribe.reassignmentsOfFresh" = some "append(fresh-make),append(fresh-make)" ∧
    Gen.c10Fact "Unsubscribe.makeLengths" = some "0" := by decide +kernel

/-- Subscribe appends one element to the field, under the lock -/
theorem C10_fact_subscribe_appends :
    Gen.c10Fact "Subscribe.storesIntoField" = some "append(field)+one/locked" := by decide +kernel

/-- Publish iterates a header copy taken under the lock, and every delivery closure owns its subscription
    variable (it runs later, on the handler goroutine, when SubscribeOn is set) -/
theorem C10_fact_publish_snapshot :
    Gen.c10Fact "Publish.rangesOver" = some "alias-of-field" ∧
    Gen.c10Fact "Publish.snapshots" = some "header-copy/locked" ∧
    Gen.c10Fact "Publish.deliveryClosureOwnsItsSubscription" = some "true" := by decide +kernel

end FpgoVerif.C10
