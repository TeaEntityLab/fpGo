import FpgoVerif.Proofs.C14Inv
import FpgoVerif.Proofs.C14Wait
import FpgoVerif.Gen.C15Bodies
/-! Property theorems for C14 — coroutines pair every YieldFrom with the matching YieldRef, in order, per caller.
    All theorems hold for any number of callers, any scripts, any opCh capacity, any generator `gen`, and every
    interleaving (`Reach`).  Hypothesis of the property ("the target still has YieldRefs to serve"): the target
    of this system never finishes (finishing = C15). -/
namespace FpgoVerif.C14

/-- conservation and per-caller order of requests: what caller i asked = what the target took from it (in order)
    ++ what is still queued ++ what it has not sent yet.  Nothing is lost, duplicated or reordered. -/
theorem C14_pair_requests {gen cap script sv s} (h : Reach gen cap script sv s) (i : Nat) :
    xsOf i s.served ++ chOf i s.opCh ++ s.pending i = script i := (inv_reach h).reqs i

/-- routing: the answers caller i has (received ++ waiting in its resultCh ++ being sent) are exactly the values
    yielded for ITS OWN requests, in its own order — never another caller's. -/
theorem C14_pair_answers {gen cap script sv s} (h : Reach gen cap script sv s) (i : Nat) :
    s.got i ++ s.resCh i ++ inflY i s.inflight = ysOf i s.served := (inv_reach h).ans i

/-- the k-th request taken returns its x to the YieldRef and is paired with the value the generator yields at
    that point -/
theorem C14_take_pairs {gen cap s s'} (h : step gen cap s .take = some s') :
    ∃ c x rest, s.opCh = (c, x) :: rest ∧ s'.served = s.served ++ [(c, x, gen (seenOf s.served))] ∧
      s'.inflight = some (c, x, gen (seenOf s.served)) := by
  cases step_cases h with
  | take _ hop => exact ⟨_, _, _, hop, rfl, rfl⟩

/-- a caller that has nothing outstanding any more got exactly y's of its requests and the target saw exactly its
    script: with one caller, its n YieldFrom calls return y1..yn and the target sees x1..xn -/
theorem C14_caller_complete {gen cap script sv s} (h : Reach gen cap script sv s) (i : Nat)
    (hp : s.pending i = []) (hq : chOf i s.opCh = []) (hr : s.resCh i = []) (hf : inflY i s.inflight = []) :
    xsOf i s.served = script i ∧ s.got i = ysOf i s.served :=
  ⟨by simpa [hp, hq] using C14_pair_requests h i, by simpa [hr, hf] using C14_pair_answers h i⟩

/-- a caller is inside a YieldFrom (`waiting`) iff exactly one item of its is on the way — its request queued in
    opCh, or taken and not yet answered, or the answer sitting in its resultCh; otherwise none is: no request or
    answer is duplicated on the way and none disappears while its caller waits -/
theorem C14_outstanding {gen cap script sv s} (h : Reach gen cap script sv s) (i : Nat) :
    (chOf i s.opCh).length + (inflY i s.inflight).length + (s.resCh i).length = if s.waiting i = true then 1 else 0 :=
  inv2_reach h i

/-- no value is lost to a stuck system: while any caller still has a request to make or is waiting for an answer,
    some atom is enabled (the target has YieldRefs left = the `take`/`answer` atoms exist; opCh has capacity ≥ 1).
    Together with `C14_caller_complete` every maximal run ends with all callers complete. -/
theorem C14_progress {gen cap script sv s} (h : Reach gen cap script sv s) (hcap : 0 < cap)
    (hw : ∃ i, s.pending i ≠ [] ∨ s.waiting i = true) : ∃ a s', step gen cap s a = some s' :=
  progress (inv2_reach h) hcap hw

/-- non-vacuity of `C14_progress`: the initial state of a one-caller system has a request to make -/
example : ∃ i, (init (mkScript [2]) none).pending i ≠ [] ∨ (init (mkScript [2]) none).waiting i = true :=
  ⟨0, Or.inl (by decide)⟩

/-- the run the driver executes for a `pair` / `zero` / `donotyf` case (round-robin over all atoms) is a path of the
    transition system: the invariants above hold of the very state `handle` evaluates its monitors on -/
theorem C14_run_reach {gen cap script sv} (n fuel : Nat) :
    Reach gen cap script sv (runRR gen cap n fuel (init script sv)) :=
  runRR_reach n fuel _ Reach.init

/-- non-vacuity: one caller with script [1, 2], generator "fixed": the run completes with both answers -/
example : (let s := runRR (shapeGen "fixed" false) 5 1 40 (init (mkScript [2]) none)
           (s.got 0, xsOf 0 s.served, s.pending 0)) = ([3, 10], [1, 2], []) := by decide

/-- StartWithVal hands its value to the first YieldRef: the first op the target ever takes is the callerless
    op carrying that value -/
theorem C14_startWithVal {gen cap script v s} (h : Reach gen cap script (some v) s) :
    (s.served = [] ∧ s.opCh.head? = some (none, v)) ∨ s.served.head? = some (none, v, gen []) := by
  induction h with
  | init => left; simp [init]
  | @step s0 s1 a _ hs ih =>
    -- a `send` appends to opCh and leaves its head; the first `take` pops exactly that head; nothing else touches either
    cases step_cases hs
    case send =>
      refine ih.imp (fun ⟨h1, h2⟩ => ⟨h1, ?_⟩) id
      cases hop : s0.opCh <;> simp_all
    case take c x rest _ hop =>
      right
      rcases ih with ⟨h1, h2⟩ | h2
      · simp_all [seenOf]
      · cases hs0 : s0.served <;> simp_all
    all_goals exact ih

/-- DoNotation returns the effect's result and YieldFromIO the IO's value, in EVERY interleaving of the calling
    goroutine (Add; Start/Subscribe; Wait; return result) with the goroutine that runs the effect / OnNext
    (result = v; Done): whatever is returned is `v` -/
theorem C14_doNotation {v s r} (h : DnReach v s) (hr : s.m = .ret r) : r = v := dn_ret h hr

/-- … and the call does return: until it has returned and the coroutine is done, some goroutine can step (Wait is
    released by Done; nothing else blocks) -/
theorem C14_doNotation_progress {v s} (h : DnReach v s) (hn : (∀ r, s.m ≠ .ret r) ∨ s.e ≠ .fin) :
    ∃ a s', dnStep v s a = some s' := dn_progress h hn

/-- the driver's `doNotation` (round-robin schedule of the same system) returns v (a test of the executable model,
    not the general claim: that is `C14_doNotation`) -/
theorem C14_doNotation_run (v : Nat) : doNotation v = some v := rfl

/-- IsStarted / IsDone in every reachable state: IsStarted ⇔ Start has run (the effect goroutine exists — "becomes
    true when the effect starts"), IsDone ⇔ the effect has returned and close() has set the flag ("when it returns");
    never done before started -/
theorem C14_flags {v s} (h : DnReach v s) :
    (s.started = true ↔ s.e ≠ .idle) ∧ (s.done = true ↔ s.e = .fin) ∧ (s.done = true → s.started = true) :=
  dn_flags h

/-- the three observation points of the `flags` case on that system: false,false before Start; true,false while
    the effect runs; true,true after it returned (a test of the executable model, not the general claim) -/
theorem C14_flags_trace : flagsTrace.map (fun f => (f.started, f.done)) = [(false, false), (true, false), (true, true)] := by
  decide

/-- non-vacuity: the state in which the caller is blocked in Wait while the effect has stored but not signalled -/
example : ∃ s, DnReach 7 s ∧ s.m = .m2 ∧ s.e = .e1 ∧ s.wg = 1 :=
  ⟨dnRun 7 {} [.main, .main, .eff],
   DnReach.step .eff (DnReach.step .main (DnReach.step .main DnReach.init rfl) rfl) rfl, rfl, rfl, rfl⟩

/-! ### protocol tie: the exact current bodies of the coroutine functions (regenerated on every run) -/

theorem C14_body_YieldRef : Gen.c15BodyToksOf "CorDef.YieldRef" = some ["{", "var", "result", "T", "if", "self.IsDone()", "{", "return", "result", "}", "var", "op", "*CorOp[T]", "var", "more", "bool", "op,", "more", "=", "<-self.opCh", "if", "more", "&&", "op", "!=", "nil", "&&", "op.cor", "!=", "nil", "{", "cor", ":=", "op.cor", "cor.doCloseSafe(func()", "{", "cor.resultCh", "<-", "out", "})", "}", "result", "=", "op.val", "return", "result", "}"] := by decide +kernel
theorem C14_body_YieldFrom : Gen.c15BodyToksOf "CorDef.YieldFrom" = some ["{", "var", "result", "T", "if", "self.IsDone()", "{", "return", "result", "}", "if", "!target.receive(self,", "in)", "{", "return", "result", "}", "result,", "_", "=", "<-self.resultCh", "return", "result", "}"] := by decide +kernel
theorem C14_body_receive : Gen.c15BodyToksOf "CorDef.receive" = some ["{", "delivered", ":=", "false", "self.doCloseSafe(func()", "{", "if", "self.opCh", "!=", "nil", "{", "select", "{", "case", "self.opCh", "<-", "&CorOp[T]{cor:", "cor,", "val:", "in}:", "delivered", "=", "true", "case", "<-self.doneCh:", "}", "}", "})", "return", "delivered", "}"] := by decide +kernel
theorem C14_body_StartWithVal : Gen.c15BodyToksOf "CorDef.StartWithVal" = some ["{", "if", "self.IsDone()", "||", "self.isStarted.Get()", "{", "return", "}", "self.receive(nil,", "in)", "self.Start()", "}"] := by decide +kernel
theorem C14_body_Start : Gen.c15BodyToksOf "CorDef.Start" = some ["{", "if", "self.IsDone()", "||", "self.isStarted.Get()", "{", "return", "}", "self.isStarted.Set(true)", "go", "func()", "{", "self.effect()", "self.close()", "}()", "}"] := by decide +kernel
theorem C14_body_DoNotation : Gen.c15BodyToksOf "CorDef.DoNotation" = some ["{", "var", "result", "T", "var", "wg", "sync.WaitGroup", "wg.Add(1)", "var", "cor", "*CorDef[T]", "cor", "=", "CorNewGenerics[T](func()", "{", "result", "=", "effect(cor)", "wg.Done()", "})", "cor.Start()", "wg.Wait()", "return", "result", "}"] := by decide +kernel
theorem C14_body_YieldFromIO : Gen.c15BodyToksOf "CorDef.YieldFromIO" = some ["{", "var", "result", "T", "var", "wg", "sync.WaitGroup", "wg.Add(1)", "target.SubscribeOn(nil).Subscribe(Subscription[T]{", "OnNext:", "func(in", "T)", "{", "result", "=", "in", "wg.Done()", "},", "})", "wg.Wait()", "return", "result", "}"] := by decide +kernel
theorem C14_body_New : Gen.c15BodyToksOf "CorNewGenerics" = some ["{", "cor", ":=", "&CorDef[T]{", "effect:", "effect,", "opCh:", "make(chan", "*CorOp[T],", "5),", "resultCh:", "make(chan", "T,", "5),", "doneCh:", "make(chan", "struct{}),", "isStarted:", "AtomBool{flag:", "0},", "}", "return", "cor", "}"] := by decide +kernel
theorem C14_body_IsDone : Gen.c15BodyToksOf "CorDef.IsDone" = some ["{", "return", "self.isClosed.Get()", "}"] := by decide +kernel
theorem C14_body_IsStarted : Gen.c15BodyToksOf "CorDef.IsStarted" = some ["{", "return", "self.isStarted.Get()", "}"] := by decide +kernel
theorem C14_body_doCloseSafe : Gen.c15BodyToksOf "CorDef.doCloseSafe" = some ["{", "self.closedM.Lock()", "defer", "self.closedM.Unlock()", "if", "self.IsDone()", "{", "return", "}", "fn()", "}"] := by decide +kernel
theorem C14_body_close : Gen.c15BodyToksOf "CorDef.close" = some ["{", "self.isClosed.Set(true)", "if", "self.doneCh", "!=", "nil", "{", "close(self.doneCh)", "}", "self.closedM.Lock()", "if", "self.resultCh", "!=", "nil", "{", "close(self.resultCh)", "}", "if", "self.opCh", "!=", "nil", "{", "close(self.opCh)", "}", "self.closedM.Unlock()", "if", "self.opCh", "!=", "nil", "{", "for", "op", ":=", "range", "self.opCh", "{", "if", "op", "!=", "nil", "&&", "op.cor", "!=", "nil", "{", "cor", ":=", "op.cor", "cor.doCloseSafe(func()", "{", "var", "zero", "T", "cor.resultCh", "<-", "zero", "})", "}", "}", "}", "}"] := by decide +kernel

end FpgoVerif.C14
