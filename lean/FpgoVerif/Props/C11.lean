import FpgoVerif.Proofs.C11Refine
import FpgoVerif.Gen.C11Skeletons
/-! Property theorems for C11 — MonadIO is lazy, runs its effect once per evaluation, obeys the monad laws.

    All statements are about the definitions the driver executes (`Model/C11.lean`): `just/new/flatMap/
    eval/doSubscribe/subscribe/observeOn/subscribeOn/yieldFromIO` mirror monadIO.go closure by closure,
    `den` is the composition-tree interpreter of the protocol, `run`/`specCase` is the Spec. -/
namespace FpgoVerif.C11

variable {α : Type}

/-! ### Laziness -/

/-- Building and composing is silent: for EVERY composition tree and from every state, a script of operations
    that only construct/compose (`b`, ObserveOn `o*`, SubscribeOn `u*`, selecting an object, deriving one from
    another) leaves the world exactly as it was
    and reports no event.  (In the model the constructors are values — `World` is not an argument of
    `just/new/flatMap/observeOn/subscribeOn`; that the Go constructors behave like that is carried by the
    correspondence, which prints the events seen after every such operation, and by `C11_skeleton`: the effect
    closure is invoked only from `doEffect`, and `doEffect`/`fn` are called only inside closures.) -/
theorem C11_lazy (ops : List String)
    (h : ∀ op ∈ ops, parseOp op = some (.basic .build) ∨ (∃ h, parseOp op = some (.basic (.ob h))) ∨
      (∃ h, parseOp op = some (.basic (.so h))) ∨ (∃ j, parseOp op = some (.sel j)) ∨
      (∃ j c b, parseOp op = some (.derive j c b)) ∨ (∃ j c k, parseOp op = some (.deriveRet j c k))) :
    ∀ (st : ISt), (foldOps stepOp st ops).1.w = st.w := by
  induction ops with
  | nil => intro st; rfl
  | cons op ops ih =>
    intro st
    rw [foldOps_cons, ih fun o ho => h o (by simp [ho])]
    show (stepOp st op).1.w = st.w
    rcases h op (by simp) with hb | ⟨hh, hb⟩ | ⟨hh, hb⟩ | ⟨j, hb⟩ | ⟨j, c, b, hb⟩ | ⟨j, c, k, hb⟩ <;> simp only [stepOp, hb, implStep]
    -- build, ObserveOn, SubscribeOn alike: only a Subscribe is ever queued; refused or run, the world stays
    iterate 3
      cases st.regs st.cur <;> simp only [queues, Bool.false_eq_true, if_false]
      split <;> rfl
    · cases st.regs j <;> rfl
    · cases st.regs st.cur <;> rfl
    · cases st.regs st.cur <;> cases st.regs k <;> rfl

/-- every case starts from the empty world, nothing pending, whatever the tree: construction of `den t 0` contributes
    nothing -/
theorem C11_lazy_initial (line : String) (t : Tree) (hp : parseHead (splitCase line).1 = some t) :
    handle line = " | ".intercalate (runOps stepOp (istInit t (headAllowsSame (splitCase line).1)) (splitCase line).2) ∧
      ∀ b, (istInit t b).w = w0 := by
  simp [handle, hp, istInit]

example : (implStep (implStep (implStep (istInit (.FL 1 (.N 1) (.N 2))) (.basic (.ob (some .h1)))).1 (.derive 1 4 (.N 3))).1 (.sel 1)).1.w = w0
    ∧ (implStep (implStep (istInit (.FL 1 (.N 1) (.N 2))) (.derive 1 4 (.N 3))).1 (.sel 1)).2 = "-" := ⟨rfl, rfl⟩

/-! ### Exactly once, in composition order -/

/-- Eval runs the chain exactly once: on any goroutine `g`, from any world, it returns the value the
    composition denotes and appends precisely the chain `run` lists (each effect and each continuation call
    once, in composition order, all on `g`); the earlier log is untouched. -/
theorem C11_once (t : Tree) (v : Nat) (g : Tag) (w : World) :
    eval (den t v) g w = ((run t v w.log.length).1, w.emits (run t v w.log.length).2 g) :=
  den_effect t v g w

/-- `run` follows composition order read off the syntax: for a static composition (no data-dependent
    branch) the chain is the left operand's chain, the continuation, the body's chain — every syntactic
    effect and continuation exactly once. -/
theorem C11_once_static (t : Tree) (hs : t.static = true) : ∀ (v n : Nat),
    (run t v n).2.map Kind.label = labels t := by
  induction t with
  | FC c t b1 b2 _ _ _ => cases hs
  | FL c t b iht ihb =>
    intro v n
    simp only [Tree.static, Bool.and_eq_true] at hs
    simp [run, labels, iht hs.1, ihb hs.2, Kind.label]
  | A x c b ih => intro v n; simp [run, labels, Kind.label, ih hs]
  -- wrappers add no event of their own
  | FR t ih | O h t ih | S h t ih | Z t ih => exact fun v n => ih hs _ n
  | _ => exact fun v n => rfl

/-- … hence one Eval of a static composition logs, after the old log, exactly the syntactic sequence of its
    effects/continuations, all on the evaluating goroutine — and `k` Evals log it `k` times (`C11_once`
    applies from every world). -/
theorem C11_once_log (t : Tree) (hs : t.static = true) (v : Nat) (g : Tag) (w : World) :
    ((eval (den t v) g w).2.log.drop w.log.length).map (fun e => (e.kind.label, e.g)) =
      (labels t).map (fun l => (l, g)) := by
  rw [C11_once, emits_log, List.drop_left, ← C11_once_static t hs v w.log.length]
  simp [List.map_map, Function.comp_def]

example : (Tree.FL 1 (.N 1) (.FR (.W 2))).static = true ∧ labels (.FL 1 (.N 1) (.FR (.W 2))) = [.eff 1, .call 1, .eff 2] := by decide

/-- A value that is itself a MonadIO object is a value like any other: `Just(obj)` yields the object and runs nothing of
    it, whatever the object is; composed further, the continuation receives the object. -/
theorem C11_just_of_monad (id : Nat) (x : Tree) (v : Nat) (g : Tag) (w : World) :
    eval (den (.JM id x) v) g w = (1000 + id, w) ∧
    ∀ (c : Nat) (b : Tree), eval (den (.FL c (.JM id x) b) v) g w = eval (den b (1000 + id)) g (w.emit (.call c (1000 + id)) g) :=
  ⟨rfl, fun _ _ => rfl⟩

/-! ### Monad laws (equalities of `Tag → World → α × World`) -/

/-- Just(x).FlatMap(f) behaves as f(x) -/
theorem C11_left_identity (a : α) (f : α → M α) : (flatMap (just a) f).effect = (f a).effect := rfl

/-- m.FlatMap(Just) behaves as m -/
theorem C11_right_identity (m : M α) : (flatMap m just).effect = m.effect := rfl

/-- FlatMap is associative — here even as an equality of MonadIO values -/
theorem C11_assoc (m : M α) (f k : α → M α) :
    flatMap (flatMap m f) k = flatMap m (fun a => flatMap (f a) k) := rfl

/-- the laws as seen by the two consumers: Eval … -/
theorem C11_laws_eval (a : α) (m : M α) (f k : α → M α) (g : Tag) (w : World) :
    eval (flatMap (just a) f) g w = eval (f a) g w ∧
    eval (flatMap m just) g w = eval m g w ∧
    eval (flatMap (flatMap m f) k) g w = eval (flatMap m (fun a => flatMap (f a) k)) g w :=
  ⟨rfl, rfl, rfl⟩

/-- … and Subscribe, for every subscription and every nil/non-nil handler pair -/
theorem C11_laws_subscribe (a : α) (m : M α) (f k : α → M α) (s : Subscription α) (ob sub : Option Tag)
    (g : Tag) (w : World) :
    doSubscribe (flatMap (just a) f) s ob sub g w = doSubscribe (f a) s ob sub g w ∧
    doSubscribe (flatMap m just) s ob sub g w = doSubscribe m s ob sub g w ∧
    doSubscribe (flatMap (flatMap m f) k) s ob sub g w =
      doSubscribe (flatMap m (fun a => flatMap (f a) k)) s ob sub g w :=
  ⟨rfl, rfl, rfl⟩

/-! ### Subscribe: one delivery of Eval's value, on the right goroutines -/

/-- With an OnNext, doSubscribe runs the effect exactly once — on `obOn`'s goroutine (the caller's when nil)
    — and applies OnNext exactly once, to that value, in the world the effect left — on `subOn`'s goroutine
    (the effect's goroutine when nil). -/
theorem C11_subscribe_once (m : M α) (onNext : α → Tag → World → World) (ob sub : Option Tag) (g : Tag)
    (w : World) :
    doSubscribe m ⟨some onNext⟩ ob sub g w =
      onNext (eval m (ob.getD g) w).1 (sub.getD (ob.getD g)) (eval m (ob.getD g) w).2 :=
  subscribe_once m onNext ob sub g w

/-- A Subscription without OnNext runs nothing. -/
theorem C11_subscribe_nil (m : M α) (ob sub : Option Tag) (g : Tag) (w : World) :
    doSubscribe m ⟨none⟩ ob sub g w = w :=
  subscribe_nil m ob sub g w

/-- ObserveOn(h1)/SubscribeOn(h2) on a composition, then Subscribe with the logging OnNext: the log grows by
    the chain — once, in order, every event on h1 (caller if nil) — followed by exactly one delivery of the
    composition's value on h2 (h1's goroutine if nil). -/
theorem C11_handlers (t : Tree) (v : Nat) (h1 h2 : Option Tag) (g : Tag) (w : World) :
    subscribe (subscribeOn (observeOn (den t v) h1) h2) ⟨some logNext⟩ g w =
      (w.emits (run t v w.log.length).2 (h1.getD g)).emit (.next (run t v w.log.length).1) (h2.getD (h1.getD g)) := by
  unfold subscribe
  rw [C11_subscribe_once]
  simp only [eval, doEffect, subscribeOn, observeOn, den_effect]
  rfl

example : (subscribe (subscribeOn (observeOn (den (.FL 1 (.N 1) (.V 0)) 0) (some .h1)) (some .h2)) ⟨some logNext⟩ .main w0).log
    = [⟨.eff 1, .h1⟩, ⟨.call 1 7, .h1⟩, ⟨.next 7, .h2⟩] := by decide

/-- Eval ignores the handlers: it always runs on the caller. -/
theorem C11_eval_ignores_handlers (m : M α) (h1 h2 : Option Tag) (g : Tag) (w : World) :
    eval (subscribeOn (observeOn m h1) h2) g w = eval m g w := rfl

/-- Cor.YieldFromIO returns exactly Eval's value (effect on obOn's goroutine, once) and leaves subOn = nil. -/
theorem C11_yieldFromIO (m : M Nat) (g : Tag) (w : World) :
    yieldFromIO m g w =
      (subscribeOn m none, (eval m (m.obOn.getD g) { w with cell := 0 }).1,
       { (eval m (m.obOn.getD g) { w with cell := 0 }).2 with cell := (eval m (m.obOn.getD g) { w with cell := 0 }).1 }) :=
  yieldFromIO_eq m g w

/-! ### Several objects derived from one object; subscriptions in flight -/

/-- Deriving is composing: the object stored by `derive` denotes `m.FlatMap(f)` of the object it was derived from —
    whatever else has been or will be derived from that same object (values are immutable: siblings are independent,
    the base is unchanged). -/
theorem C11_derive_independent (st : ISt) (j c : Nat) (b : Tree) (m : M Nat) (hm : st.regs st.cur = some m) :
    (implStep st (.derive j c b)).1.regs j = some (flatMap m (kont c (fun x => den b x))) ∧
    (∀ k, k ≠ j → (implStep st (.derive j c b)).1.regs k = st.regs k) ∧ (implStep st (.derive j c b)).1.w = st.w := by
  simp only [implStep]
  rw [hm]
  exact ⟨by simp [setReg], fun k hk => by simp [setReg, hk], rfl⟩

/-- doSubscribe is the cut version run to completion: the delivery is a resumption that depends only on the value
    the effect produced and on the handler pair passed to doSubscribe — the pair in force when Subscribe was called. -/
theorem C11_subscribe_split (m : M α) (onNext : α → Tag → World → World) (ob sub : Option Tag) (g : Tag) (w : World) :
    doSubscribe m ⟨some onNext⟩ ob sub g w =
      (doSubscribeSplit m onNext ob sub g w).2 (doSubscribeSplit m onNext ob sub g w).1 := by
  rw [C11_subscribe_once]; rfl

/-- A gated subscription delivers where ITS handler pair says, whatever is done to the object while it is in flight:
    after any operations in between that leave the pending subscription alone, opening the gate appends exactly one
    delivery of the value of the composition on `sub.getD ob` as they were at Subscribe. -/
theorem C11_gated_delivery (st : ISt) (m : M Nat) (hb : Tag) (hm : st.regs st.cur = some m) (hp : st.pend = none)
    (hob : m.obOn = some hb) (hns : (!st.allowSame && sameUnbuffered m.obOn m.subOn) = false) :
    ∃ k, (implStep st .gsub).1.pend = some (hb, k) ∧
      ∀ w', k w' = w'.emit (.next (eval m hb st.w).1) (m.subOn.getD hb) := by
  rw [hob] at hns
  simp only [implStep, hm, hp, hob, hns]
  exact ⟨_, rfl, fun w' => rfl⟩

/-! ### The model the driver runs refines the Spec on every case line -/

/-- For every case line (any tree; any script of Eval / Subscribe / nil-Subscribe / YieldFromIO / ObserveOn /
    SubscribeOn operations on up to four objects, objects derived from a common object, a gated subscription with
    operations while it is in flight; any number of evaluations), the implementation model prints exactly what the
    property's statement (`specCase`: chain once per evaluation in composition order, value of the composition, effect on
    h1's goroutine, delivery on h2's — the pair in force when Subscribe was called —, nothing without OnNext) prescribes. -/
theorem C11_model_refines_spec (line : String) : handle line = specCase line := by
  unfold handle specCase
  cases hp : parseHead (splitCase line).1 with
  | none => simp [hp]
  | some t =>
    simp only [hp]
    congr 1
    refine runOps_eq Rel stepOp specOp ?_ _ _ _ ?_
    · intro s st op h
      unfold stepOp specOp
      cases parseOp op with
      | none => exact ⟨h, rfl⟩
      | some o => exact rel_step s st o h
    · -- the initial states: no object but the head's, in register 0 on both sides
      exact ⟨relReg_set (regs := fun _ => none) (sregs := fun _ => none) (fun _ => trivial) 0 0 rfl _ _ ⟨rfl, den_handlers t 0⟩,
        rfl, rfl, trivial, rfl, rfl, rfl⟩

/-! ### Tie to the source: protocol skeletons regenerated from monadIO.go on every run -/

/-- the shape of monadIO.go the model assumes, as data (`Gen/C11Skeletons.lean`, regenerated by `extract/c11.go`: the shared
    skeleton grammar with statement-level reads of the handler fields dropped — handing an operand's handlers on to a
    composed value is neutral for the property) -/
def expectedSkeletons : List (String × String) := [
  ("MonadIOJustGenerics", "func{return} return"),
  ("MonadIONewGenerics", "return"),
  ("MonadIODef.Just", "call(MonadIOJustGenerics) return"),
  ("MonadIODef.New", "call(MonadIONewGenerics) return"),
  ("MonadIODef.FlatMap", "func{call(doEffect) callfn(fn) call(doEffect) return} return"),
  ("MonadIODef.Eval", "call(doEffect) return"),
  ("MonadIODef.doEffect", "callfn(effect) return"),
  ("MonadIODef.ObserveOn", "set(obOn) return"),
  ("MonadIODef.SubscribeOn", "set(subOn) return"),
  ("MonadIODef.Subscribe", "set(obOn) set(subOn) call(doSubscribe) return"),
  ("MonadIODef.doSubscribe", "if[]{func{callfn(OnNext)} func{call(doEffect) set(result) if[]{call(Post)}else{callfn(doSub)}} if[]{call(Post)}else{callfn(doOb)}} return")]

/-- monadIO.go still has the protocol shape the model mirrors: the constructors and FlatMap/ObserveOn/
    SubscribeOn call neither `effect`, `fn`, `doEffect` nor `OnNext` outside a closure (laziness); the stored
    effect is invoked only from `doEffect`; FlatMap's closure is doEffect — fn — doEffect (once each, in this
    order); Eval is one doEffect; doSubscribe guards everything by OnNext ≠ nil, runs doEffect once in `doOb`,
    hands `doSub` to Post or calls it (once), hands `doOb` to Post or calls it (once). -/
theorem C11_skeleton : expectedSkeletons.all (fun e => Gen.monadIOSkeletonOf e.1 == some e.2) = true := by
  -- row by row; `simp` compares string literals directly, which the kernel's evaluation of `==` does character by character
  simp [expectedSkeletons, Gen.monadIOSkeletonOf, Gen.monadIOSkeletons]

end FpgoVerif.C11
