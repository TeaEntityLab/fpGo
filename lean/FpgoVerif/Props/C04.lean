import FpgoVerif.Proofs.C04Step
import FpgoVerif.Proofs.C04Content
import FpgoVerif.Gen.StreamEffects
/-! Property theorems for C04 — Stream / Set / StreamSet are persistent.

    All statements are about the definitions the driver executes (`step`/`exec` of `Model/C04Proto`, the
    world operations of `Model/C04World`), for BOTH families (`iface : Bool`), every operation of the
    alphabet, all operands, all element lists, all indices.

    * `Inv st`      — the world is well-formed (no dangling reference) and every live handle is valid;
    * `Le w w'`     — `w'` extends `w`: all backing arrays, stream cells, map objects and set cells of `w` are
                      still there, unchanged (objects were only added);
    * `content w h` — the elements a handle denotes (arrays: shown part and the part up to cap; streams: the
                      sequence; sets: key-sorted entries, stream values by their sequence). -/
namespace FpgoVerif.C04
open World

/-- Well-formedness and validity of all live handles are preserved by EVERY operation (mutators and
    out-of-range / nil / ill-typed operands included). -/
theorem C04_step_inv (iface : Bool) {st : State} (hi : Inv st) (op : Op) : Inv (step iface st op).1 :=
  (step_ok iface hi op).1

/-- One step of persistence: an operation that is not a documented mutator (`Set`, interface{} `Remove`)
    nor a write of the caller through its own slice only ADDS objects to the world. -/
theorem C04_step_extends (iface : Bool) {st : State} (hi : Inv st) (op : Op) (hm : op.isMutator iface = false) :
    Le st.w (step iface st op).1.w :=
  (step_ok iface hi op).2 hm

/-- … hence the receiver, the arguments and all earlier results — every live handle, and indeed every valid
    handle whether or not it is still named — hold exactly the elements they held before. -/
theorem C04_step_persistent (iface : Bool) {st : State} (hi : Inv st) (op : Op) (hm : op.isMutator iface = false)
    {x : Handle} (hx : x.ok st.w) : content (step iface st op).1.w x = content st.w x :=
  content_le hi.wf (C04_step_extends iface hi op hm) hx

/-- every state reachable by any program from the empty state satisfies the invariant -/
theorem C04_reachable_inv (iface : Bool) (ops : List Op) {st : State} (hi : Inv st) : Inv (run iface st ops) := by
  induction ops generalizing st with
  | nil => exact hi
  | cons o t ih => exact ih (C04_step_inv iface hi o)

/-- persistence across a block of non-mutating operations, from any invariant state -/
theorem C04_run_persistent (iface : Bool) (mid : List Op) (hmid : ∀ o ∈ mid, o.isMutator iface = false) :
    ∀ {st : State}, Inv st → ∀ {x : Handle}, x.ok st.w → content (run iface st mid).w x = content st.w x := by
  induction mid with
  | nil => intro st _ x _; rfl
  | cons o t ih =>
    intro st hi x hx
    have ⟨ho, ht⟩ := List.forall_mem_cons.mp hmid
    have hx' : x.ok (step iface st o).1.w := Handle.ok_grow (C04_step_extends iface hi o ho).grow hx
    exact (ih ht (C04_step_inv iface hi o) hx').trans (C04_step_persistent iface hi o ho hx)

/-- Persistence over operation histories: after ANY program `pre` (mutators included), every handle that is
    live keeps its contents across ANY continuation made of non-mutating operations — each earlier
    collection after every later operation. -/
theorem C04_program (iface : Bool) (pre mid : List Op) (hmid : ∀ o ∈ mid, o.isMutator iface = false)
    {x : Handle} (hx : x.ok (run iface State.init pre).w) :
    content (run iface State.init (pre ++ mid)).w x = content (run iface State.init pre).w x := by
  have hpre := C04_reachable_inv iface pre Inv.init
  have hrun : run iface State.init (pre ++ mid) = run iface (run iface State.init pre) mid := by
    simp [run, List.foldl_append]
  rw [hrun]
  exact C04_run_persistent iface mid hmid hpre hx

/-- all live handles of a reachable state are valid (so `C04_program` applies to each of them) -/
theorem C04_live_handles_valid (iface : Bool) (pre : List Op) :
    ∀ e ∈ (run iface State.init pre).env, e.2.ok (run iface State.init pre).w :=
  (C04_reachable_inv iface pre Inv.init).env

/-- `Len` agrees with the element sequence in every well-formed world (hence in every reachable state:
    `C04_reachable_inv`); `Get(i)` and `Contains(x)` are evaluated on the element sequence by definition of `exec`. -/
theorem C04_len_agrees {w : World} (hw : Wf w) (p : Nat) : (w.strContent p).length = (w.strHdr p).len :=
  strContent_length hw p

/-- every slice header of a reachable state lies inside its live backing array and has `len ≤ cap` -/
theorem C04_headers_in_bounds (iface : Bool) (pre : List Op) (p : Nat) :
    sliceOk (run iface State.init pre).w ((run iface State.init pre).w.strHdr p) :=
  strHdr_ok (C04_reachable_inv iface pre Inv.init).wf p

/-! ### the documented mutators -/

/-- `Set` on a set / stream set touches map objects only: every array and every stream keeps its elements. -/
theorem C04_set_touches_maps_only {w w' : World} (hw : Wf w) {p : Nat} {k : Int} {v : Val} (hv : valOk w v)
    (h : w.setSet p k v = some w') : w'.arrs = w.arrs ∧ w'.strs = w.strs ∧ w'.sets = w.sets ∧ Wf w' :=
  let r := setSet_wf hw hv h; ⟨r.2.2.1, r.2.2.2.1, r.2.2.2.2, r.1⟩

/-- `Set` stores exactly the given entry in the receiver's map (the receiver is the only set cell written —
    other set cells change only if they hold the same map object). -/
theorem C04_set_result {w w' : World} {p r : Nat} {k : Int} {v : Val} (hr : w.sets.getD p none = some r)
    (hlt : r < w.maps.length) (h : w.setSet p k v = some w') : w'.setMap p = Spec.insert k v (w.setMap p) := by
  unfold setSet at h
  rw [hr] at h
  cases h
  have hr' : w.sets[p]?.getD none = some r := by simpa [List.getD_eq_getElem?_getD] using hr
  simp [setMap, writeMap, mapAt, List.getD_eq_getElem?_getD, hlt, hr']

/-- a write of the caller through one of its slices changes one backing array only: slices over any other
    array (in particular every `ToArray` result, see `C04_toArray_detached`) are not affected -/
theorem C04_write_touches_one_array (w : World) (a pos : Nat) (l : List Int) {s : Slice} (hs : s.arr ≠ a) :
    (w.writeArr a pos l).sliceContent s = w.sliceContent s :=
  sliceContent_writeArr_ne w a pos l hs

/-- interface{} `Remove(i)` returns its receiver (same cell), keeps the world well-formed, creates no
    stream cell and touches no set cell. -/
theorem C04_ifaceRemove_returns_receiver {w : World} (hw : Wf w) {p : Nat} (hp : p < w.strs.length) (i : Int) :
    (w.strRemoveI p i).2 = p ∧ Wf (w.strRemoveI p i).1 ∧ (w.strRemoveI p i).1.sets = w.sets :=
  ⟨strRemoveI_snd w p i, (strRemoveI_wf hw p i).1, (strRemoveI_wf hw p i).2.2⟩

/-- interface{} `Remove(i)` writes at most ONE existing backing array — the receiver's — and ONE stream cell —
    the receiver: every other array (hence every slice/stream over another array) and every other stream
    header is exactly what it was; map objects and set cells are not touched at all. -/
theorem C04_ifaceRemove_frame (w : World) (p : Nat) (i : Int) :
    (∀ a, a ≠ (w.strHdr p).arr → a < w.arrs.length → (w.strRemoveI p i).1.arrAt a = w.arrAt a) ∧
    (∀ q, q ≠ p → (w.strRemoveI p i).1.strHdr q = w.strHdr q) ∧
    (w.strRemoveI p i).1.maps = w.maps ∧ (w.strRemoveI p i).1.sets = w.sets := by
  unfold strRemoveI
  simp only
  split
  · -- the shifted tail is written in place, or (it cannot fit) into a fresh array
    unfold appendSlice
    split
    · exact ⟨fun a ha _ => arrAt_writeArr_ne w (Ne.symm ha) _ _, fun q hq => strHdr_setStrHdr_ne _ (Ne.symm hq) _, rfl, rfl⟩
    · exact ⟨fun a _ hlt => arrAt_le (allocArr_le w _) hlt, fun q hq => strHdr_setStrHdr_ne _ (Ne.symm hq) _, rfl, rfl⟩
  · exact ⟨fun _ _ _ => rfl, fun _ _ => rfl, rfl, rfl⟩

/-- interface{} `Remove(i)` leaves the receiver — which IS the returned stream — holding the sequence without
    its `i`-th element (any other index, negative ones included: unchanged), in every well-formed world. -/
theorem C04_ifaceRemove_content {w : World} (hw : Wf w) {p : Nat} (hp : p < w.strs.length) (i : Int) :
    (w.strRemoveI p i).1.strContent p = Spec.removeAt (w.strContent p) i := by
  have hs := strHdr_ok hw p
  unfold Spec.removeAt
  rw [strContent_length hw p]
  split
  · rename_i hi
    have hi' : i.toNat < (w.strHdr p).len := by omega
    have hb : (w.strHdr p).off + (w.strHdr p).len ≤ (w.arrAt (w.strHdr p).arr).length := by
      have := hs.2.1; have := hs.2.2; omega
    rw [strRemoveI_eq hs hi, strContent, strHdr_setStrHdr_self (w := w.writeArr _ _ _) hp]
    show List.take ((w.strHdr p).len - 1) (List.drop (w.strHdr p).off ((w.writeArr _ _ _).arrAt (w.strHdr p).arr)) = _
    rw [arrAt_writeArr_self hs.1, show (w.strHdr p).len - 1
      = i.toNat + ((w.sliceContent (w.strHdr p)).drop (i.toNat + 1)).length by
        rw [List.length_drop, sliceContent_length hs]; omega]
    exact shift_list _ _ _ _ hi' hb
  · simp only [strRemoveI, if_neg ‹_›]

/-! ### network/simpleHTTP.go: the interceptor list is used persistently -/

/-- `AddInterceptor` / `RemoveInterceptor` / `ClearInterceptor` on instance `p` (for any interceptor list) leave
    every existing backing array unchanged — in particular the caller's slice the instance was built from, up to
    its capacity — and every other instance (stream cell) with its elements, also one built from the same slice. -/
theorem C04_http_instances_independent {w : World} (hw : Wf w) {p : Nat} (hp : p < w.strs.length) (ids : List Int) :
    ∀ w' ∈ [w.httpAdd p ids, w.httpRemove p ids, w.httpClear p],
      (∀ s : Slice, s.arr < w.arrs.length → w'.sliceContent s = w.sliceContent s ∧ w'.sliceHidden s = w.sliceHidden s) ∧
      (∀ q, q < w.strs.length → q ≠ p → w'.strContent q = w.strContent q) ∧ Wf w' := by
  intro w' hw'
  have f : HFrame w w' p := by
    simp only [List.mem_cons, List.not_mem_nil, or_false] at hw'
    rcases hw' with rfl | rfl | rfl
    · exact httpAdd_frame ids hw hp
    · exact httpRemove_frame ids hw hp
    · exact httpClear_frame hw p
  have harr : ∀ a, a < w.arrs.length → w'.arrAt a = w.arrAt a := fun a ha => getD_of_prefix f.arrs ha _
  refine ⟨fun s hs => ⟨by simp [sliceContent, harr _ hs], by simp [sliceHidden, harr _ hs]⟩, ?_, f.wf⟩
  intro q hq hne
  unfold strContent
  rw [f.strs q hq hne]
  simp [sliceContent, harr _ (strHdr_ok hw q).1]

/-! ### results: the elements the sequence definition prescribes -/

theorem C04_newStream_content (w : World) (l : List Int) (tail : Nat) :
    (w.newStream l tail).1.strContent (w.newStream l tail).2 = l :=
  strContent_newStream w l tail

/-- `Map`, `Filter`, `Reject`, `FilterNotNil`, `Distinct`, `Reverse` and the generic `Remove` return a NEW
    stream holding exactly the prescribed sequence. -/
theorem C04_stream_results (w : World) (p : Nat) :
    (∀ f, (w.strMap p f).1.strContent (w.strMap p f).2 = Spec.mapIdx f (w.strContent p)) ∧
    (∀ pr, (w.strFilter p pr).1.strContent (w.strFilter p pr).2 = Spec.filterIdx pr (w.strContent p)) ∧
    ((w.strDistinct p).1.strContent (w.strDistinct p).2 = Spec.distinct (w.strContent p)) ∧
    ((w.strReverse p).1.strContent (w.strReverse p).2 = (w.strContent p).reverse) :=
  ⟨fun _ => C04_newStream_content _ _ _, fun _ => C04_newStream_content _ _ _, C04_newStream_content _ _ _,
   C04_newStream_content _ _ _⟩

/-- `Minus` / `RemoveItem` / `Intersection` / `Extend` / generic `Remove`: the prescribed sequence, whether
    the result is a new stream or (empty argument, index out of range) the receiver itself. -/
theorem C04_stream_results_binary (w : World) (p : Nat) :
    (∀ q, (w.strMinus p (some q)).1.strContent (w.strMinus p (some q)).2 =
        if (w.strHdr q).len = 0 then w.strContent p else Spec.minus (w.strContent p) (w.strContent q)) ∧
    (∀ q, (w.strInter p (some q)).1.strContent (w.strInter p (some q)).2 =
        if (w.strHdr q).len = 0 then [] else Spec.inter (w.strContent p) (w.strContent q)) ∧
    (∀ items, (w.strRemoveItem p items).1.strContent (w.strRemoveItem p items).2 =
        if items.isEmpty then w.strContent p else Spec.minus (w.strContent p) items) ∧
    (∀ i, (w.strRemoveG p i).1.strContent (w.strRemoveG p i).2 =
        if 0 ≤ i ∧ i < (w.strHdr p).len then (w.strContent p).eraseIdx i.toNat else w.strContent p) := by
  refine ⟨?_, ?_, ?_, ?_⟩
  · intro q; simp only [strMinus]; split
    · rfl
    · exact C04_newStream_content _ _ _
  · intro q; simp only [strInter]; split
    · exact strContent_newNilStream w
    · exact C04_newStream_content _ _ _
  · intro items; simp only [strRemoveItem]; split
    · rfl
    · exact C04_newStream_content _ _ _
  · intro i; simp only [strRemoveG]; split
    · exact C04_newStream_content _ _ _
    · rfl

/-- `ToArray` returns a detached copy: a backing array that did not exist before (so no existing stream,
    slice or set can see a write through it — `C04_write_touches_one_array`), holding the stream's elements. -/
theorem C04_toArray_detached (w : World) (p : Nat) :
    (w.strToArray p).2.arr = w.arrs.length ∧
    (w.strToArray p).1.sliceContent (w.strToArray p).2 = w.strContent p :=
  ⟨rfl, sliceContent_allocArr_new _ _⟩

/-- `Clone` likewise: new cell, new array, same elements. -/
theorem C04_clone_detached (w : World) (p : Nat) :
    (w.strClone p).2 = w.strs.length ∧ ((w.strClone p).1.strHdr (w.strClone p).2).arr = w.arrs.length ∧
    (w.strClone p).1.strContent (w.strClone p).2 = w.strContent p :=
  ⟨rfl, congrArg Slice.arr (strHdr_allocStr_new _ _), strClone_content w p⟩

/-- `Concat(slices...)`: the receiver's elements followed by the elements of every slice, in order (the
    receiver itself when called without slices) -/
theorem C04_concat_content {w : World} (hw : Wf w) (p : Nat) (slices : List Slice)
    (hs : ∀ s ∈ slices, s.arr < w.arrs.length) :
    (w.strConcat p slices).1.strContent (w.strConcat p slices).2
      = slices.foldl (fun acc s => acc ++ w.sliceContent s) (w.strContent p) := by
  unfold strConcat
  split
  · rename_i h; rw [List.isEmpty_iff.mp h]; rfl
  · simp only
    rw [strContent_newStream,
      show (w.strToArray p).1.sliceContent (w.strToArray p).2 = w.strContent p from sliceContent_allocArr_new _ _]
    exact foldl_congr_mem _ _ _ (fun b s hsm => by
      rw [show (w.strToArray p).1.sliceContent s = w.sliceContent s from sliceContent_le (allocArr_le w _) (hs s hsm)]) _

/-- `Append(items...)`: a new stream holding the receiver's elements followed by the items -/
theorem C04_append_content {w : World} (hw : Wf w) {p : Nat} (hp : p < w.strs.length) (items : List Int) :
    (w.strAppend p items).1.strContent (w.strAppend p items).2 = w.strContent p ++ items := by
  have h₁ := allocArr_good hw items
  unfold strAppend
  simp only
  rw [C04_concat_content h₁.1.wf p [(w.allocArr items).2] (fun s hs => List.mem_singleton.mp hs ▸ h₁.2.1)]
  simp only [List.foldl_cons, List.foldl_nil]
  rw [sliceContent_allocArr_new, strContent_le hw h₁.1.le hp]

/-- `Extend(streams...)`: the receiver's elements followed by the elements of every non-nil stream, in order -/
theorem C04_extend_content (w : World) (p : Nat) (args : List (Option Nat)) :
    (w.strExtend p args).1.strContent (w.strExtend p args).2
      = args.foldl (fun acc a => match a with | none => acc | some q => acc ++ w.strContent q) (w.strContent p) := by
  unfold strExtend
  split
  · rename_i h; rw [List.isEmpty_iff.mp h]; rfl
  · exact strContent_newStream _ _ _

/-! ### Sort / SortByIndex -/

/-- `Sort(cmp)` and `SortByIndex(cmp)` return a stream holding `Spec.sortBy cmp` of the receiver's elements
    (for `SortByIndex` the comparator reads the live receiver, which is sorted in place and then restored:
    `C04_step_persistent`). -/
theorem C04_sort_content {w : World} (hw : Wf w) {p : Nat} (hp : p < w.strs.length) (less : Int → Int → Bool) :
    (w.strSort p less).1.strContent (w.strSort p less).2 = Spec.sortBy less (w.strContent p) ∧
    (w.strSortByIndex p less).1.strContent (w.strSortByIndex p less).2 = Spec.sortBy less (w.strContent p) := by
  rw [strSort_eq, strSortByIndex_eq hw hp]
  exact ⟨strContent_newStream _ _ _, strContent_newStream _ _ _⟩

/-- what `Spec.sortBy` is, for a strict weak order (every comparator of the harness family is one): a permutation
    of the input, ordered by the comparator, and STABLE — elements the comparator does not distinguish keep their
    input order.  These three determine the result uniquely (`C19.stable_sorted_unique`). -/
theorem C04_sortBy_spec {less : Int → Int → Bool} (h : C19.StrictWeak less) (l : List Int) :
    (Spec.sortBy less l).Perm l ∧ (Spec.sortBy less l).Pairwise (fun a b => less b a = false) ∧
    ∀ x, (Spec.sortBy less l).filter (C19.equivBy less x) = l.filter (C19.equivBy less x) :=
  ⟨C19.sortBy_perm less l, C19.sortBy_pairwise h l, C19.sortBy_filter_equiv h l⟩

/-- every comparator of the family the correspondence runs (`Spec.lessFn`) is a strict weak order, so
    `C04_sortBy_spec` says what the `Sort` / `SortByIndex` cases compute -/
theorem C04_comparators_strictWeak (k : Nat) : C19.StrictWeak (Spec.lessFn k) := by
  match k with
  | 0 => exact strictWeak_of_key id
  | 1 =>
    have : Spec.lessFn 1 = fun a b => decide (-a < -b) := by
      funext a b; simp only [Spec.lessFn, gt_iff_lt, Int.neg_lt_neg_iff]
    exact this ▸ strictWeak_of_key (fun x => -x)
  | 2 => exact strictWeak_of_key (fun x => x.tmod 3)
  | n + 3 => exact ⟨fun _ => rfl, fun _ _ _ h => by simp [Spec.lessFn] at h, fun _ _ _ h => by simp [Spec.lessFn] at h⟩

/-! ### every Stream transformer at once -/

/-- For EVERY unary Stream transformer of the alphabet (`Map`, `Filter`, `Reject`, `FilterNotNil` — on int, on
    interface{} (untyped nil and typed nil pointers are absent) and on pointer elements (`notnilp`) —, `Distinct`,
    `Clone`, `Reverse`, `Sort`, `SortByIndex`, `RemoveItem`, `Append`, `Remove` — both families, i.e. including the
    interface{} in-place `Remove`), as dispatched by the driver (`execS1`): the returned handle holds
    `specS1` of the receiver's elements. -/
theorem C04_unary_stream_content (iface : Bool) {w : World} (hw : Wf w) {p : Nat} (hp : p < w.strs.length) (k : S1) :
    (execS1 iface w p k).1.strContent (execS1 iface w p k).2 = specS1 iface k (w.strContent p) := by
  cases k with
  | map f | filter f | reject f | distinct | reverse => exact strContent_newStream _ _ _
  | notnil =>
    refine (strContent_newStream _ _ _).trans ?_
    cases iface with
    | false => exact (filterIdxFrom_noidx (fun _ => true) _ 0).trans (filter_const_true _)
    | true => exact filterIdxFrom_noidx (fun x => !Spec.isAbsent x) _ 0
  | notnilp => exact (strContent_newStream _ _ _).trans (filterIdxFrom_noidx _ _ 0)
  | clone => exact strClone_content w p
  | sort c => exact (C04_sort_content hw hp _).1
  | sortidx c => exact (C04_sort_content hw hp _).2
  | rmitem vs =>
    simp only [execS1, specS1, strRemoveItem]
    split
    · rename_i h; rw [List.isEmpty_iff.mp h, minus_nil]
    · exact strContent_newStream _ _ _
  | append vs => exact C04_append_content hw hp vs
  | remove i =>
    cases iface with
    | true => exact (strRemoveI_snd w p i).symm ▸ C04_ifaceRemove_content hw hp i
    | false =>
      simp only [execS1, specS1, Bool.false_eq_true, if_false, strRemoveG, Spec.removeAt, strContent_length hw p]
      split
      · exact strContent_newStream _ _ _
      · rfl

/-- `Intersection(arg)` / `Minus(arg)` for any argument (nil, empty or not), on ELEMENTS (no header conditions):
    `Intersection` of an empty argument is empty, `Minus` of an empty argument is the receiver's sequence. -/
theorem C04_binary_stream_content {w : World} (hw : Wf w) (p : Nat) (q : Option Nat) :
    ((w.strInter p q).1.strContent (w.strInter p q).2
      = if (argContent w q).isEmpty then [] else Spec.inter (w.strContent p) (argContent w q)) ∧
    ((w.strMinus p q).1.strContent (w.strMinus p q).2 = Spec.minus (w.strContent p) (argContent w q)) := by
  cases q with
  | none => exact ⟨strContent_newNilStream w, (minus_nil _).symm⟩
  | some q =>
    simp only [strInter, strMinus, argContent, List.isEmpty_iff, ← len_zero_iff hw q]
    split
    · exact ⟨strContent_newNilStream w, by rw [(len_zero_iff hw q).mp ‹_›, minus_nil]⟩
    · exact ⟨strContent_newStream _ _ _, strContent_newStream _ _ _⟩

/-! ### Set operations: the map the result holds, and what that map means key by key -/

/-- For every Set operation the map held by the RESULT handle is the `Spec` map function of the maps held by the
    receiver and the argument (`argMap`: a nil argument has no entries).  The statements are uniform over the
    "returns the receiver itself" cases (no items / nil or empty argument), where the function is the identity. -/
theorem C04_set_results (w : World) (p : Nat) :
    ((w.setClone p).1.setMap (w.setClone p).2 = w.setMap p) ∧
    (∀ f, (w.setMapKey p f).1.setMap (w.setMapKey p f).2 = Spec.mapKeys f (w.setMap p)) ∧
    (∀ f, (w.setMapVal p f).1.setMap (w.setMapVal p f).2 = Spec.mapVals f (w.setMap p)) ∧
    (∀ zero items, (w.setAdd p zero items).1.setMap (w.setAdd p zero items).2
        = items.foldl (fun m k => Spec.insertIfAbsent k zero m) (w.setMap p)) ∧
    (∀ items, (w.setRemoveKeys p items).1.setMap (w.setRemoveKeys p items).2 = Spec.removeKeys (w.setMap p) items) ∧
    (∀ vals, (w.setRemoveValues p vals).1.setMap (w.setRemoveValues p vals).2
        = (w.setMap p).filter (fun kv => !vals.contains kv.2)) ∧
    (∀ q, (w.setUnion p q).1.setMap (w.setUnion p q).2 = Spec.merge (w.setMap p) (argMap w q)) ∧
    (∀ q, (w.setInter p q).1.setMap (w.setInter p q).2 = Spec.interByKey (w.setMap p) (argMap w q)) ∧
    (∀ q, (w.setMinus p q).1.setMap (w.setMinus p q).2 = Spec.minusByKey (w.setMap p) (argMap w q)) := by
  -- "the receiver itself" (the argument is empty, the function is the identity) or a new set holding the map
  have ite : ∀ (c : Prop) [Decidable c] (m : AMap), (c → w.setMap p = m) →
      (if c then (w, p) else w.newSet m).1.setMap (if c then (w, p) else w.newSet m).2 = m := by
    intro c _ m h
    split
    · exact h ‹_›
    · exact setMap_newSet _ _
  have hmin : ∀ m : AMap, m = Spec.minusByKey m [] := fun m => (filter_const_true m).symm
  have hint : w.newNilSet.1.setMap w.newNilSet.2 = Spec.interByKey (w.setMap p) [] :=
    (setMap_newNilSet w).trans (List.filter_eq_nil_iff.mpr fun _ _ => Bool.false_ne_true).symm
  refine ⟨setMap_newSet _ _, fun _ => setMap_newSet _ _, fun _ => setMap_newSet _ _, ?_, ?_, ?_, ?_, ?_, ?_⟩
  · exact fun zero items => ite _ _ fun h => by rw [List.isEmpty_iff.mp h]; rfl
  · exact fun items => ite _ _ fun h => by rw [List.isEmpty_iff.mp h]; exact (filter_const_true _).symm
  · exact fun vals => ite _ _ fun h => by rw [List.isEmpty_iff.mp h]; exact (filter_const_true _).symm
  · intro q
    cases q with
    | none => rfl
    | some q => exact ite _ _ fun h => by rw [List.isEmpty_iff.mp h]; rfl
  · intro q
    cases q with
    | none => exact hint
    | some q =>
      simp only [setInter, argMap]; split
      · rename_i h; rw [List.isEmpty_iff.mp h]; exact hint
      · exact setMap_newSet _ _
  · intro q
    cases q with
    | none => exact hmin _
    | some q => exact ite _ _ fun h => by rw [List.isEmpty_iff.mp h]; exact hmin _

/-- Key/value meaning of those map functions (`Spec.lookup k m` = the value stored under `k`, if any):
    * `Set`/assignment: the assigned key reads the new value, every other key is unchanged;
    * `Add`: present keys keep their value, missing items get the zero value, nothing else appears;
    * `Union` (`Merge`): the ARGUMENT's value wins on common keys (its last assignment, `reverse`), other keys of
      either side are kept;
    * `RemoveKeys` / `Intersection` / `Minus`: exactly the receiver's entries whose key is not listed / is / is not
      a key of the argument, with the receiver's values;
    * `MapValue`: same keys, transformed values;
    * `RemoveValues`: exactly the receiver's entries whose value is not listed. -/
theorem C04_map_laws {β : Type} [BEq β] (k : Int) (m m₂ : List (Int × β)) :
    (∀ k' v, Spec.lookup k (Spec.insert k' v m) = if k' = k then some v else Spec.lookup k m) ∧
    (∀ (zero : β) (items : List Int), Spec.lookup k (items.foldl (fun m k => Spec.insertIfAbsent k zero m) m)
        = match Spec.lookup k m with
          | some x => some x
          | none => if items.contains k then some zero else none) ∧
    (Spec.lookup k (Spec.merge m m₂) = match Spec.lookup k m₂.reverse with
          | some v => some v
          | none => Spec.lookup k m) ∧
    (∀ ks, Spec.lookup k (Spec.removeKeys m ks) = if ks.contains k then none else Spec.lookup k m) ∧
    (Spec.lookup k (Spec.interByKey m m₂) = if Spec.hasKey k m₂ then Spec.lookup k m else none) ∧
    (Spec.lookup k (Spec.minusByKey m m₂) = if Spec.hasKey k m₂ then none else Spec.lookup k m) ∧
    (∀ f, Spec.lookup k (Spec.mapVals f m) = (Spec.lookup k m).map f) ∧
    (∀ (vals : List β) kv, kv ∈ m.filter (fun kv => !vals.contains kv.2) ↔ kv ∈ m ∧ vals.contains kv.2 = false) :=
  ⟨fun k' v => Spec.lookup_insert k k' v m, fun zero items => Spec.lookup_add k zero items m,
   Spec.lookup_merge k m m₂, Spec.lookup_removeKeys k m, Spec.lookup_interByKey k m m₂,
   Spec.lookup_minusByKey k m m₂, fun f => Spec.lookup_mapVals k f m,
   fun vals kv => by simp [List.mem_filter]⟩

/-- `MapKey(f)`: when the transformed keys are pairwise distinct — in particular for the (injective) key functions
    of the harness family on a map with distinct keys — every entry keeps its value under the transformed key.
    (With colliding keys the Go result depends on the map iteration order; no definition prescribes it.) -/
theorem C04_mapKey_law {β : Type} (m : List (Int × β)) :
    (∀ f : Int → Int, (m.map (fun kv => f kv.1)).Nodup → Spec.mapKeys f m = m.map (fun kv => (f kv.1, kv.2))) ∧
    (∀ k, (m.map (·.1)).Nodup → Spec.mapKeys (Spec.keyFn k) m = m.map (fun kv => (Spec.keyFn k kv.1, kv.2))) := by
  refine ⟨fun f h => Spec.mapKeys_of_nodup f m h, fun k h => Spec.mapKeys_of_nodup _ m ?_⟩
  have : m.map (fun kv => Spec.keyFn k kv.1) = (m.map (·.1)).map (Spec.keyFn k) := by simp
  rw [this]
  simp only [List.Nodup, List.pairwise_map] at h ⊢
  exact h.imp (fun hne e => hne (Spec.keyFn_injective k e))

example : ([(1, 5), (2, 0)] : List (Int × Int)).map (·.1) |>.Nodup := by decide

/-- `Keys()` / `Values()` return a NEW array (index = old heap size, so no existing collection can see a write
    through it) holding the keys / values -/
theorem C04_keys_values_detached (w : World) (p : Nat) :
    ((w.setKeys p).2.arr = w.arrs.length ∧
      (w.setKeys p).1.sliceContent (w.setKeys p).2 = Spec.sortInts ((w.setMap p).map (·.1))) ∧
    ((w.setValues p).2.arr = w.arrs.length ∧
      (w.setValues p).1.sliceContent (w.setValues p).2 = Spec.sortInts ((w.setMap p).map (fun kv => valInt kv.2))) :=
  ⟨⟨rfl, sliceContent_allocArr_new _ _⟩, ⟨rfl, sliceContent_allocArr_new _ _⟩⟩

/-! ### StreamSet operations: from maps of stream pointers to maps of element sequences -/

/-- the printed/compared contents of a set-like handle are its entries — every stream pointer replaced by the
    sequence it denotes — sorted by key -/
theorem C04_content_is_sorted_entries (w : World) (p : Nat) :
    setContent w p = Spec.sortByKey (entriesOf w (w.setMap p)) := rfl

/-- StreamSet `Clone`, `Intersection`, `MinusStreams`, `Union`, `StreamSetFromMap`: the entries of the RESULT (keys
    with the element sequences of their streams) are the prescribed function of the entries of the operands:
    * `Clone`: the same entries (through freshly cloned streams);
    * `Intersection`: the receiver's entries whose key the argument has; where the argument's stream is non-empty
      the stream becomes `Spec.inter` of the two (a nil receiver stream counts as empty);
    * `MinusStreams`: all the receiver's entries; where the argument's stream under the same key is non-empty the
      stream becomes `Spec.minus` of the two;
    * `Union`: `Merge` (the argument wins) except that a key of BOTH sides whose argument stream is non-empty holds
      the receiver's stream extended by the argument's (`unionC`);
    and an empty argument gives ∅ / ∅ / the receiver. -/
theorem C04_streamset_results {w : World} (hw : Wf w) {p : Nat} (hp : p < w.sets.length) (q : Nat) :
    let e₁ := entriesOf w (w.setMap p)
    let e₂ := entriesOf w (w.setMap q)
    (entriesOf (w.ssClone p).1 ((w.ssClone p).1.setMap (w.ssClone p).2) = e₁) ∧
    (entriesOf (w.ssInter p (some q)).1 ((w.ssInter p (some q)).1.setMap (w.ssInter p (some q)).2)
      = if e₂.isEmpty then [] else (Spec.interByKey e₁ e₂).map (fun kv => (kv.1, combineC Spec.inter e₂ kv.1 kv.2))) ∧
    (entriesOf (w.ssMinusStreams p (some q)).1
        ((w.ssMinusStreams p (some q)).1.setMap (w.ssMinusStreams p (some q)).2)
      = if e₂.isEmpty then [] else e₁.map (fun kv => (kv.1, combineC Spec.minus e₂ kv.1 kv.2))) ∧
    (entriesOf (w.ssUnion p (some q)).1 ((w.ssUnion p (some q)).1.setMap (w.ssUnion p (some q)).2)
      = if e₂.isEmpty then e₁ else unionC e₁ e₂) ∧
    (∀ m, mapOk w m → entriesOf (w.ssFromMap m).1 ((w.ssFromMap m).1.setMap (w.ssFromMap m).2) = entriesOf w m) :=
  ⟨(ssClone_spec hw p).2, (ssInter_some hw p q).2, (ssMinusStreams_some hw p q).2, (ssUnion_some hw hp q).2,
   fun _ hm => setMap_newSet_entries hw hm⟩

/-- nil arguments: `Union(nil)` is the receiver itself, `Intersection(nil)` and `MinusStreams(nil)` are empty -/
theorem C04_streamset_nil_arg (w : World) (p : Nat) :
    w.ssUnion p none = (w, p) ∧
    (w.ssInter p none).1.setMap (w.ssInter p none).2 = [] ∧
    (w.ssMinusStreams p none).1.setMap (w.ssMinusStreams p none).2 = [] :=
  ⟨rfl, setMap_newSet _ _, setMap_newSet _ _⟩

/-! ### the regenerated destructive-effect table (`extract/c04.go` → `Gen/StreamEffects.lean`) -/

/-- the only functions allowed to write storage reachable from their receiver / parameters, with exactly these
    writes: the documented mutators (`Set` ×2, interface{} `Remove`), `SortByIndex`'s sort-then-restore pair
    (modelled by `strSortByIndex`, undone by `strSortByIndex_arrs`), `fp.Sort` (documented in-place; the
    stream `Sort`s apply it to a fresh clone, hence have no entry) and `DuplicateSlice`'s append to a
    zero-capacity view (which cannot write into its argument). -/
def allowedEffects : List (String × List String) :=
  [("MapSetDef.Set", ["idx:(*recv)"]),
   ("SetForInterfaceDef.Set", ["idx:(*recv)"]),
   ("StreamForInterfaceDef.Remove", ["store:recv", "append:(*recv)[:index]"]),
   ("StreamDef.SortByIndex", ["sort:*recv", "copy:*recv"]),
   ("StreamForInterfaceDef.SortByIndex", ["sort:*recv", "copy:*recv"]),
   ("fp.Sort", ["sort:input"]),
   ("fp.DuplicateSlice", ["append0:list[:0:0]"])]

/-- Every Stream / MapSet / StreamSet method of both families, every constructor in stream.go /
    streamForInterface.go and every fp.go helper they call has NO destructive operation on storage reachable
    from its receiver or parameters — except the entries of `allowedEffects`, with exactly the listed writes.
    (Kernel evaluation over the table regenerated from the source on every run.) -/
theorem C04_effects_closed :
    Gen.streamEffects.all (fun e => e.effects.isEmpty || allowedEffects.contains (e.name, e.effects)) = true := by
  decide +kernel

/-- the table is not empty and contains the methods the property names -/
theorem C04_effects_inventory :
    ["StreamDef.Map", "StreamDef.Filter", "StreamDef.Remove", "StreamDef.SortByIndex", "StreamDef.Append",
     "StreamDef.Concat", "StreamDef.Extend", "StreamDef.Reverse", "StreamDef.Clone", "StreamDef.ToArray",
     "StreamForInterfaceDef.Remove", "StreamForInterfaceDef.SortByIndex", "MapSetDef.Add", "MapSetDef.Set",
     "MapSetDef.Union", "MapSetDef.Minus", "SetForInterfaceDef.Add", "StreamSetDef.Union", "StreamSetDef.MinusStreams",
     "StreamSetForInterfaceDef.Clone", "fp.Filter", "fp.Reverse", "fp.Concat", "fp.DuplicateSlice", "network.SimpleHTTPDef.AddInterceptor",
     "network.SimpleHTTPDef.RemoveInterceptor", "network.SimpleHTTPDef.ClearInterceptor"].all
      (fun n => Gen.streamEffects.any (fun e => e.name == n)) = true := by
  decide +kernel

/-! ### non-vacuity -/

/-- a non-trivial reachable state: a stream over a caller's array with spare capacity, a set and a stream set -/
def demoOps : List Op :=
  [.arr "a0" 3 [1, 2, 1, 9, 9], .sfrom "s0" "a0", .s1 "s1" "s0" (.filter 1), .setFrom "m0" [1, 2],
   .mset "m0" 1 5, .tfromMap "t0" [(1, some "s0"), (2, none)], .s1 "s2" "s0" (.sortidx 0)]

example : (run false State.init demoOps).env.length = 6 := by decide
example : Inv (run false State.init demoOps) := C04_reachable_inv false demoOps Inv.init
/-- `C04_program` instantiated: the receiver `s0` keeps `[1,2,1]` through Filter, …, SortByIndex, Reverse -/
example : content (run false State.init (demoOps ++ [.s1 "s3" "s0" .reverse])).w (.str (some 0)) = .str [1, 2, 1] := by
  decide
example : (Op.s1 "s3" "s0" .reverse).isMutator true = false := rfl
/-- the interface{} `Remove` really is a mutator in the model: `[1,2,3].Remove(0)` rewrites the receiver's
    storage (`a0` becomes `[2,3,3]`) — which is why it is excluded from `C04_step_persistent`. -/
example : content (run true State.init [.arr "a0" 3 [1, 2, 3], .sfrom "s0" "a0", .s1 "s1" "s0" (.remove 0)]).w
    (.arr ⟨1, 0, 3, 3⟩ true) = .arr [2, 3, 3] [] := by decide

end FpgoVerif.C04
