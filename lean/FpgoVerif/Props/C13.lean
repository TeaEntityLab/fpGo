import FpgoVerif.Proofs.C13Ask
import FpgoVerif.Proofs.C13Fan
import FpgoVerif.Model.C13
import FpgoVerif.Gen.Skeletons
import FpgoVerif.Gen.MailboxFacts
/-! Property theorems for C13 — "Ask/Reply: every asker gets its own answer; timeouts are clean".  All statements
    are about `C13.step`, the function the driver executes, for the code as it is now (`legacy = false`), for any
    number of askers of any kind (AskOnce / AskOnceWithTimeout / AskChannel), any payloads, any reply function,
    any capacities of the actor's mailbox and of the reply channels, and every schedule — the timeout of an
    AskOnceWithTimeout may fire at any moment after the request was handed to the actor, the actor may take
    arbitrarily long between receiving a request and calling `Reply`. -/
namespace FpgoVerif.C13

/-- No panic state is reachable: `Reply` never sends on a closed channel (not after a timeout, not after
    AskOnce / AskOnceWithTimeout closed `ch` behind a received value), nothing is closed twice. -/
theorem C13_no_panic {c : Cfg} {spec s} (hl : c.legacy = false) (h : Reach c spec s) : s.panicked = false :=
  (reach_inv hl h).np

/-- Correlation: whatever an asker receives — and returns — is the value the actor computed for that very
    request, `reply i (payload i)`; no schedule routes a reply to another asker. -/
theorem C13_correlation {c : Cfg} {spec s} (hl : c.legacy = false) (h : Reach c spec s) (i v : Nat)
    (hv : (s.asker i).pc = .got v ∨ (s.asker i).pc = .retV v) : v = c.reply i (spec i).2.1 := by
  have hp := ((reach_inv hl h).ok i).ph
  rcases hv with hv | hv <;> rw [hv] at hp
  · exact hp.2.2.2
  · exact hp.2.2

/-- … also in transit: a reply channel only ever holds the answer to its own request, and the value the actor
    is about to send in `Reply` is the answer to the request it is serving. -/
theorem C13_in_transit {c : Cfg} {spec s} (hl : c.legacy = false) (h : Reach c spec s) (i : Nat) :
    (∀ v ∈ (s.asker i).buf, v = c.reply i (spec i).2.1) ∧ (∀ v, s.actor = .replying i v → v = c.reply i (spec i).2.1) :=
  ⟨((reach_inv hl h).ok i).buf, ((reach_inv hl h).ok i).act⟩

/-- The result of an ask is `(reply, nil)` or `(zero, ErrActorAskTimeout)`; the timeout result only comes out
    of AskOnceWithTimeout, leaves `ch` open and `done` closed; and at most the one late reply is still around. -/
theorem C13_timeout_clean {c : Cfg} {spec s} (hl : c.legacy = false) (h : Reach c spec s) (i : Nat)
    (ht : (s.asker i).pc = .retT) :
    (spec i).1 = .timeout ∧ (s.asker i).chClosed = false ∧ (s.asker i).doneClosed = true ∧ holds s i ≤ 1 := by
  have hp := ((reach_inv hl h).ok i).ph
  rw [ht] at hp
  exact ⟨hp.2.2.2, hp.2.1, hp.2.2.1, hp.1⟩

/-- A reply produced after the timeout is discarded: when the actor is inside `Reply` for an asker that has
    returned with the timeout, the `done` case of the select is enabled, taking it leaves the actor idle, the
    request counted as served, and no panic. -/
theorem C13_late_reply_discarded {c : Cfg} {spec s} (hl : c.legacy = false) (h : Reach c spec s) {i v : Nat}
    (ha : s.actor = .replying i v) (ht : (s.asker i).pc = .retT) :
    step c s .replyDone = some { s with actor := .idle, served := s.served ++ [i] } := by
  have hd := (C13_timeout_clean hl h i ht).2.2.1
  simp [step, ha, hd, hl]

/-- The actor is never blocked forever in `Reply`: some case of its select is enabled, or the asker's timer has
    fired and the asker's very next atom (`close(done)`) enables the `done` case, or the request is an AskChannel
    whose caller holds the channel and has not started to receive — then the caller's `read` atom is enabled and the
    hand-off follows (a reply to an AskChannel waits for its reader, however late that reader is). -/
theorem C13_reply_never_stuck {c : Cfg} {spec s} (hl : c.legacy = false) (h : Reach c spec s) {i v : Nat}
    (ha : s.actor = .replying i v) :
    ((step c s .replySend).isSome = true ∧ (s.asker i).chClosed = false) ∨ (step c s .replyDone).isSome = true ∨
      ((s.asker i).pc = .fired ∧ (step c s (.giveUp i)).isSome = true) ∨
      ((s.asker i).pc = .holding ∧ (step c s (.read i)).isSome = true) :=
  (reach_inv hl h).reply_progress hl ha

/-- … and it keeps serving: whenever the actor is not idle or its mailbox is not empty, an atom of the actor is
    enabled (or the one asker atom named above). -/
theorem C13_actor_keeps_serving {c : Cfg} {spec s} (hl : c.legacy = false) (h : Reach c spec s)
    (hw : s.actor ≠ .idle ∨ s.mbox ≠ []) :
    (step c s .take).isSome = true ∨ (step c s .compute).isSome = true ∨ (step c s .replySend).isSome = true ∨
      (step c s .replyDone).isSome = true ∨ (∃ i, (s.asker i).pc = .fired ∧ (step c s (.giveUp i)).isSome = true) ∨
      ∃ i, (s.asker i).pc = .holding ∧ (step c s (.read i)).isSome = true := by
  cases ha : s.actor with
  | idle =>
    rcases hw with hw | hw
    · exact absurd ha hw
    · cases hm : s.mbox with
      | nil => exact absurd hm hw
      | cons i rest => left; simp [step, ha, hm]
  | computing i => right; left; simp [step, ha]
  | replying i v =>
    rcases C13_reply_never_stuck hl h ha with h1 | h1 | h1 | h1
    · exact Or.inr (Or.inr (Or.inl h1.1))
    · exact Or.inr (Or.inr (Or.inr (Or.inl h1)))
    · exact Or.inr (Or.inr (Or.inr (Or.inr (Or.inl ⟨i, h1⟩))))
    · exact Or.inr (Or.inr (Or.inr (Or.inr (Or.inr ⟨i, h1⟩))))

/-- The pinned code (the timeout path closes `ch`, `Reply` is a plain send) does reach the panic state: the
    late-reply schedule. -/
theorem C13_pinned_code_panics :
    (runActs { mcap := 0, reply := replyFn, legacy := true } (St.init fun i => (.timeout, payloadOf i, 0))
      [.call 0, .send 0, .fire 0, .giveUp 0, .compute, .replySend]).map (·.panicked) = some true := by decide

/-! ## non-vacuity -/

/-- three askers of the three kinds; the timeout of asker 1 fires, its late reply is discarded, asker 2 (AskChannel,
    buffered reply channel) is served afterwards -/
example : ∃ s, Reach { mcap := 1, reply := replyFn, legacy := false }
      (fun i => (if i = 1 then .timeout else if i = 2 then .channel else .once, payloadOf i, if i = 2 then 1 else 0)) s ∧
    (s.asker 0).pc = .retV 701 ∧ (s.asker 1).pc = .retT ∧ (s.asker 2).pc = .retV 885 ∧ s.served = [0, 1, 2] ∧
    s.panicked = false :=
  ⟨_, reach_of_run [.call 0, .call 1, .send 0, .take, .send 1, .call 2, .compute, .replySend, .finish 0, .take, .send 2,
                    .fire 1, .compute, .giveUp 1, .replyDone, .take, .compute, .replySend, .recv 2, .finish 2] rfl,
    rfl, rfl, rfl, rfl, rfl⟩

/-- the actor inside `Reply` while the asker's timer has fired but `done` is not closed yet (the state of the
    third disjunct of `C13_reply_never_stuck`) is reachable -/
example : ∃ s, Reach { mcap := 0, reply := replyFn, legacy := false } (fun i => (.timeout, payloadOf i, 0)) s ∧
    s.actor = .replying 0 701 ∧ (s.asker 0).pc = .fired :=
  ⟨_, reach_of_run [.call 0, .send 0, .compute, .fire 0] rfl, rfl, rfl⟩

/-- an AskChannel caller that reads late: the actor waits in `Reply` for it, the value arrives once it reads -/
example : ∃ s, Reach { mcap := 0, reply := replyFn, legacy := false } (fun i => (.channelLate, payloadOf i, 0)) s ∧
    s.actor = .replying 0 701 ∧ (s.asker 0).pc = .holding ∧
    (runActs { mcap := 0, reply := replyFn, legacy := false } s [.read 0, .replySend, .finish 0]).map (fun t => (t.asker 0).pc)
      = some (.retV 701) :=
  ⟨_, reach_of_run [.call 0, .send 0, .compute] rfl, rfl, rfl, rfl⟩

/-! ## fan-in: k AskChannel requests on ONE shared caller-made reply channel, late collector (`fanin` case lines)

    `Fan.step c` for every capacity `c` (0 included), every list `replies` of reply values in service order (any `k`),
    every schedule (the collector starts whenever it likes). -/

/-- Nothing dropped, nothing duplicated, service order kept: received ++ buffered ++ the value inside `Reply` ++ not yet
    produced is exactly the list of replies. -/
theorem C13_fanin_conservation {c replies s} (h : Fan.Reach c replies s) :
    s.got ++ s.buf ++ Fan.optl s.cur ++ s.todo = replies := (Fan.reach_inv h).cons

/-- The shared channel never holds more than its capacity. -/
theorem C13_fanin_bound {c replies s} (h : Fan.Reach c replies s) : s.buf.length ≤ c := (Fan.reach_inv h).bound

/-- The actor is blocked in `Reply` only while the buffer is full (for an unbuffered channel: only while the collector
    has not started to receive). -/
theorem C13_fanin_blocked_only_when_full {c replies s v} (h : Fan.Reach c replies s) (hc : s.cur = some v) :
    (Fan.step c s .replyBuf).isSome = true ∨ (Fan.step c s .replyHand).isSome = true ∨
      (s.buf.length = c ∧ (0 < c ∨ s.collecting = false)) := by
  have hb := (Fan.reach_inv h).bound
  by_cases hroom : s.buf.length < c
  · left; simp [Fan.step, hc, hroom]
  · have hfull : s.buf.length = c := by omega
    by_cases h0 : c = 0
    · cases hcol : s.collecting with
      | true => right; left; simp [Fan.step, hc, h0, hcol]
      | false => right; right; exact ⟨hfull, Or.inr rfl⟩
    · right; right; exact ⟨hfull, Or.inl (Nat.pos_of_ne_zero h0)⟩

/-- … and one receive of the collector releases it: after `recv` the buffered send of `Reply` is enabled. -/
theorem C13_fanin_released_by_recv {c replies s v} (h : Fan.Reach c replies s) (hc : s.cur = some v)
    (hcol : s.collecting = true) (hfull : s.buf.length = c) (hpos : 0 < c) :
    ∃ t, Fan.step c s .recv = some t ∧ (Fan.step c t .replyBuf).isSome = true := by
  cases hb : s.buf with
  | nil => rw [hb] at hfull; simp at hfull; omega
  | cons w rest =>
    refine ⟨{ s with buf := rest, got := s.got ++ [w] }, by simp [Fan.step, hcol, hb], ?_⟩
    have : rest.length < c := by rw [hb] at hfull; simp at hfull; omega
    simp [Fan.step, hc, this]

/-- No deadlock: every reachable state that is not terminal has an enabled atom; once the collector receives, an atom
    other than `start` (so: as long as the collector keeps receiving, actor and collector never wait for each other). -/
theorem C13_fanin_no_deadlock {c replies s} (h : Fan.Reach c replies s) (hnt : ¬ s.terminal) :
    ∃ a, (Fan.step c s a).isSome = true ∧ (s.collecting = true → a ≠ .start) := by
  cases hcol : s.collecting with
  | false => exact ⟨.start, by simp [Fan.step, hcol], by simp⟩
  | true =>
    cases hc : s.cur with
    | some v =>
      rcases C13_fanin_blocked_only_when_full h hc with h1 | h1 | h1
      · exact ⟨.replyBuf, h1, by simp⟩
      · exact ⟨.replyHand, h1, by simp⟩
      · rcases h1.2 with hpos | hf
        · obtain ⟨t, ht, _⟩ := C13_fanin_released_by_recv h hc hcol h1.1 hpos
          exact ⟨.recv, by simp [ht], by simp⟩
        · rw [hcol] at hf; cases hf
    | none =>
      cases ht : s.todo with
      | cons v rest => exact ⟨.take, by simp [Fan.step, hc, ht], by simp⟩
      | nil =>
        cases hb : s.buf with
        | cons w rest => exact ⟨.recv, by simp [Fan.step, hcol, hb], by simp⟩
        | nil => exact absurd ⟨ht, hc, hb, hcol⟩ hnt

/-- At quiescence the collector has received exactly the k replies (as a list in service order, hence as a multiset):
    `received = k` is what every terminal state yields — what `handle` prints for a `fanin` line. -/
theorem C13_fanin_all_received {c replies s} (h : Fan.Reach c replies s) (ht : s.terminal) :
    s.got = replies ∧ s.got.length = replies.length := by
  have hc := (Fan.reach_inv h).cons
  obtain ⟨h1, h2, h3, _⟩ := ht
  rw [h1, h2, h3] at hc
  have : s.got = replies := by simpa [Fan.optl] using hc
  exact ⟨this, by rw [this]⟩

/-- non-vacuity: capacity 1, three replies, the collector starts when the actor is already blocked in its second `Reply` -/
example : ∃ s, Fan.Reach 1 [10, 20, 30] s ∧ s.cur = some 20 ∧ s.buf = [10] ∧ s.collecting = false ∧
    (Fan.runActs 1 s [.start, .recv, .replyBuf, .take, .recv, .replyBuf, .recv]).map (fun t => (t.got, decide (t.todo = []))) =
      some ([10, 20, 30], true) :=
  ⟨_, Fan.reach_of_run [.take, .replyBuf, .take] rfl, rfl, rfl, rfl, rfl⟩

/-- non-vacuity: unbuffered shared channel, hand-off only once the collector receives -/
example : ∃ s, Fan.Reach 0 [7, 8] s ∧ s.terminal ∧ s.got = [7, 8] :=
  ⟨_, Fan.reach_of_run [.take, .start, .replyHand, .take, .replyHand] rfl, ⟨rfl, rfl, rfl, rfl⟩, rfl⟩

/-! ## the tie: protocol skeletons and facts regenerated from the repository on every run -/

theorem C13_skel_AskOnce : Gen.skeletonOf "AskDef.AskOnce" =
    some "call(AskChannel) defer{call(close)} recv(ch) return" := by decide +kernel
theorem C13_skel_AskOnceWithTimeout : Gen.skeletonOf "AskDef.AskOnceWithTimeout" =
    some "call(AskChannel) select{recv(ch) set(result)=>{call(close)} | call(After) recv(After())=>{call(close) return}} return" := by decide +kernel
theorem C13_skel_AskChannel : Gen.skeletonOf "AskDef.AskChannel" = some "call(Send) return" := by decide +kernel
theorem C13_skel_Reply : Gen.skeletonOf "AskDef.Reply" = some "select{send(ch)=>{} | recv(done)=>{}}" := by decide +kernel
theorem C13_skel_New : Gen.skeletonOf "AskDef.New" = some "return" := by decide +kernel
theorem C13_skel_NewByOptions : Gen.skeletonOf "AskDef.NewByOptions" = some "return" := by decide +kernel
theorem C13_skel_AskNewGenerics : Gen.skeletonOf "AskNewGenerics" = some "return" := by decide +kernel
theorem C13_skel_AskNewByOptionsGenerics : Gen.skeletonOf "AskNewByOptionsGenerics" = some "return" := by decide +kernel
theorem C13_skel_Send : Gen.skeletonOf "ActorDef.Send" =
    some "if[get(isClosed) call(isClosed.Get)]{return} defer{call(recover)} send(ch)" := by decide +kernel

/-- what is closed where: AskOnce closes `ch` (after its receive); AskOnceWithTimeout closes `ch` in the reply
    case and `done` — not `ch` — in the timeout case -/
theorem C13_fact_closes : Gen.askCloses =
    [("AskDef.AskOnce", "body", "ch"), ("AskDef.AskOnceWithTimeout", "case0", "ch"),
     ("AskDef.AskOnceWithTimeout", "case1", "done")] := by decide +kernel

/-- the two selects: reply-or-timer in AskOnceWithTimeout, send-or-done in Reply -/
theorem C13_fact_selects : Gen.mailboxSelects =
    [("AskDef.AskOnceWithTimeout", ["recv:ch", "recv:After"]), ("AskDef.Reply", ["send:ch", "recv:done"])] := by decide +kernel

end FpgoVerif.C13
