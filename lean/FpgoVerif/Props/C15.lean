import FpgoVerif.Proofs.C15Mailbox
import FpgoVerif.Proofs.C15Bcq
import FpgoVerif.Proofs.C15Cor
import FpgoVerif.Proofs.C15Pool
import FpgoVerif.Proofs.C15ExecReach
import FpgoVerif.Gen.C15Bodies
/-! Property theorems for C15 — "Shutdown is safe at any moment".  One transition system per component
    (Model/C15*.lean); every theorem quantifies over all reachable states = all interleavings of any number
    of goroutines with the one closing goroutine. -/
namespace FpgoVerif.C15

/-! ## Handler / Actor -/

/-- no goroutine panics: no send on the closed channel escapes the recover scope, the channel is closed once -/
theorem C15_mailbox_safe {cap s} (h : Mb.Reach cap true s) : s.panic = false :=
  (Mb.inv_reach h).nopanic (Mb.recovers_const h)

/-- the code before fa052a2 (no recover around the send): Close between check and send panics the sender -/
theorem C15_mailbox_unfixed_panics : ∃ s, Mb.Reach 0 false s ∧ s.panic = true :=
  runActs_witness Mb.Reach.spawn Mb.Reach.step (·.panic = true)
    [(none, .p0 1), (some false, .p0 1), (none, .c0), (some false, .c0), (some false, .c1), (some false, .p1 1)]
    Mb.Reach.init (by decide)

/-- after Close has returned the flag is set, the channel is closed, and no closed-check has passed since -/
theorem C15_mailbox_after {cap r s} (h : Mb.Reach cap r s) :
    s.late = 0 ∧ (s.closeDone = true → s.flag = true ∧ s.chClosed = true) :=
  ⟨(Mb.inv_reach h).late0, fun hd => ⟨(Mb.inv_reach h).doneFlag hd, (Mb.inv_reach h).doneClosed hd⟩⟩

/-- a Post/Send whose first atom follows Close's last atom is dropped: it returns at the check, enqueues
    nothing and runs no callback -/
theorem C15_mailbox_after_dropped {cap r s m ch s' nx} (h : Mb.Reach cap r s) (hd : s.closeDone = true)
    (hs : Mb.gstep s (.p0 m) ch = some (s', nx)) : nx = .fin .ok ∧ s'.buf = s.buf ∧ s'.ran = s.ran := by
  have hf := (Mb.inv_reach h).doneFlag hd
  obtain ⟨_, s1, hs1, rfl⟩ := Mb.gstep_some hs
  simp [Mb.step, hf] at hs1
  obtain ⟨rfl, rfl⟩ := hs1
  simp

/-- no deadlock: while any Post/Send, the Close or a callback is in progress there is an occupied program-counter
    kind whose goroutine can take its next atom — whatever message it carries (the counters do not record it);
    callbacks terminate = the gate is open.  In particular a sender blocked in the send is released by the
    consumer or, after Close, by the recovered panic. 
    This includes a Close() issued from inside a callback on the handler/actor itself (the loop goroutine is then
    the closer: kinds c1 → r0) and callbacks that wait for what the closer does right after Close() returned;
    `Mb.live`: such a waiting callback (ids 400–499) is only expected to finish once a Close has been started. -/
theorem C15_mailbox_nodeadlock {cap s} (h : Mb.Reach cap true s) (hg : s.gate = true)
    (hb : 0 < s.cnt .p0 ∨ 0 < s.cnt .p1 ∨ 0 < s.cnt .c0 ∨ 0 < s.cnt .c1 ∨ 0 < s.cnt .r1) :
    ∃ k, 0 < s.cnt k ∧ ∀ pc, Mb.kind pc = k → Mb.live s pc → ∃ s' nx, Mb.gstep s pc false = some (s', nx) :=
  Mb.progressK (Mb.inv_reach h) (Mb.recovers_const h) hg hb

/-- non-vacuity: a state with a sender past the check while Close is half done is reachable -/
example : ∃ s, Mb.Reach 1 true s ∧ 0 < s.cnt .p1 ∧ 0 < s.cnt .c1 :=
  runActs_witness Mb.Reach.spawn Mb.Reach.step (fun s => 0 < s.cnt .p1 ∧ 0 < s.cnt .c1)
    [(none, .p0 1), (some false, .p0 1), (none, .c0), (some false, .c0)] Mb.Reach.init (by decide)

/-! ## BufferedChannelQueue -/

/-- no goroutine panics (users, closer, loader): nothing is sent on / closes a closed channel -/
theorem C15_bcq_safe {c b s} (h : Bq.Reach c b true true s) : s.panic = false :=
  (Bq.inv_reach h).nopanic

/-- the code before c8ecf0a, notifyWorkers without lock and closed-check: Take checks, Close closes, the wake-up
    is sent on the closed loadWorkerCh -/
theorem C15_bcq_unfixed_notify_panics : ∃ s, Bq.Reach 1 1 false true s ∧ s.panic = true :=
  runActs_witness Bq.Reach.spawn Bq.Reach.step (·.panic = true)
    [(none, .t0 .take), (some false, .t0 .take), (none, .c0), (some false, .c0), (some false, .c1), (some false, .c2),
     (some false, .n1 .take), (some false, .n2 .take)] Bq.Reach.init (by decide)

/-- the code before c8ecf0a, loader without the re-check under the lock: it try-sends on the closed channel -/
theorem C15_bcq_unfixed_loader_panics : ∃ s, Bq.Reach 1 2 true false s ∧ s.panic = true :=
  runActs_witness Bq.Reach.spawn Bq.Reach.step (·.panic = true)
    [(none, .o0 1), (some false, .o0 1), (some false, .o1 1), (none, .o0 2), (some false, .o0 2), (some false, .o1 2),
     (some false, .l0), (some false, .l1), (none, .c0), (some false, .c0), (some false, .c1), (some false, .c2),
     (some false, .l2), (some false, .l3), (some false, .l4 2)] Bq.Reach.init (by decide)

/-- after Close has returned: flag set, both channels closed, no closed-check has passed since -/
theorem C15_bcq_after {c b s} (h : Bq.Reach c b true true s) :
    s.late = 0 ∧ (s.closeDone = true → s.flag = true ∧ s.chanClosed = true ∧ s.loadClosed = true) := by
  have hi := Bq.inv_reach h
  exact ⟨hi.late0, fun hd => ⟨hi.doneFlag hd, hi.doneAll hd, (hi.chanFlag (hi.doneAll hd)).1⟩⟩

/-- calls whose first atom follows Close's last atom report it: Take/TakeWithTimeout/Poll → ErrQueueIsClosed,
    Offer/Put (under the lock) → ErrQueueIsClosed, Count → 0, IsClosed → true -/
theorem C15_bcq_after_reports {c b s ch s' nx} (h : Bq.Reach c b true true s) (hd : s.closeDone = true) :
    (∀ k, Bq.gstep s (.t0 k) ch = some (s', nx) → nx = .fin .closed) ∧
    (∀ v, Bq.gstep s (.o1 v) ch = some (s', nx) → nx = .fin .closed) ∧
    (Bq.gstep s .k0 ch = some (s', nx) → nx = .fin (.n 0)) ∧
    (Bq.gstep s .ic ch = some (s', nx) → nx = .fin (.b true)) := by
  have hf := (Bq.inv_reach h).doneFlag hd
  -- the result of a call's first atom is decided by `step` on the shared variables, where the flag is set
  have res : ∀ pc r, (∀ s1, Bq.step s pc ch = some (s1, nx) → nx = r) → Bq.gstep s pc ch = some (s', nx) → nx = r :=
    fun pc r hst hs => let ⟨_, s1, hs1, _⟩ := Bq.gstep_some hs; hst s1 hs1
  refine ⟨fun k => res _ _ ?_, fun v => res _ _ ?_, res _ _ ?_, res _ _ ?_⟩ <;>
    (intro s1 h1; simp [Bq.step, hf] at h1; exact h1.2.symm)

/-- no deadlock: once Close has begun, as long as any goroutine is inside the queue (a user mid-call, the closer,
    the loader) there is an occupied program-counter kind whose goroutine can take its next atom — whichever
    operation (Take / TakeWithTimeout / GetChannel …) or value it carries, and without any timeout firing
    (`choice = false`): blocked consumers are released by the closed channel, lock waiters by the lock holder,
    which never blocks -/
theorem C15_bcq_nodeadlock {c b s} (h : Bq.Reach c b true true s) (hcs : s.closeStarted = true)
    (hb : ∃ k, 0 < s.cnt k) :
    ∃ k, 0 < s.cnt k ∧ ∀ pc, Bq.kind pc = k → ∃ s' nx, Bq.gstep s pc false = some (s', nx) :=
  Bq.progressK (Bq.inv_reach h) hcs hb

/-- non-vacuity: two consumers blocked in Take on the empty queue while the Close has set the flag -/
example : ∃ s, Bq.Reach 1 1 true true s ∧ s.closeStarted = true ∧ 1 < s.cnt .rcv ∧ 0 < s.cnt .c1 :=
  runActs_witness Bq.Reach.spawn Bq.Reach.step (fun s => s.closeStarted = true ∧ 1 < s.cnt .rcv ∧ 0 < s.cnt .c1)
    [(none, .t0 .take), (some false, .t0 .take), (some false, .n1 .take), (some false, .n2 .take),
     (none, .t0 .take), (some false, .t0 .take), (some false, .n1 .take), (some false, .n2 .take),
     (none, .c0), (some false, .c0)] Bq.Reach.init (by decide)

/-! ## Coroutines -/

/-- no panic: nobody sends on the target's closed opCh (both before and after cb38847) -/
theorem C15_cor_safe {cap f s} (h : Co.Reach cap f s) : s.panic = false :=
  (Co.inv_reach h).nopanic

/-- after the target's close() has completed: IsDone, opCh closed, no done-check has passed since -/
theorem C15_cor_after {cap f s} (h : Co.Reach cap f s) :
    s.late = 0 ∧ (s.closeDone = true → s.gflag = true ∧ s.opClosed = true) := by
  have hi := Co.inv_reach h
  exact ⟨hi.late0, fun hd => ⟨(hi.done hd).1, (hi.done hd).2.1⟩⟩

/-- a YieldFrom whose first atom follows the completion of close() returns the zero value without queueing -/
theorem C15_cor_after_zero {cap f s id x ch s' nx} (h : Co.Reach cap f s) (hd : s.closeDone = true)
    (hs : Co.gstep s (.r0 id x) ch = some (s', nx)) : nx = .fin (.okv 0) ∧ s'.opCh = s.opCh := by
  have hi := Co.inv_reach h
  obtain ⟨hg, hop, _⟩ := hi.done hd
  obtain ⟨_, s1, hs1, rfl⟩ := Co.gstep_some hs
  have hr1 := (hi.opc hop).2.1
  simp [Co.step, hg, hr1] at hs1
  obtain ⟨rfl, rfl⟩ := hs1
  simp

/-- no deadlock (current code, cb38847): once the target's effect has returned, every goroutine still inside
    YieldFrom or close() can step until all have returned 
    Per-kind form as for the other components: some occupied kind `k` such that EVERY goroutine at `k` can step,
    whatever parameters it carries.  Only kind `w` (a caller waiting for the answer to its own request `id`) has a
    side condition, `Co.live`: the answer to that request is queued — the counters do not record which ids the
    waiting callers carry; when `k = w` is chosen the target is gone and queued answers exist (as many as waiting
    callers: `Inv.wcount`). -/
theorem C15_cor_nodeadlock {cap s} (h : Co.Reach cap true s) (hr : s.retStarted = true)
    (hb : 0 < s.cnt .r0 ∨ 0 < s.cnt .r1 ∨ 0 < s.cnt .w ∨ 0 < s.cnt .isd ∨
          0 < s.cnt .gc0 + s.cnt .gc1 + s.cnt .gc2 + s.cnt .gc3) :
    ∃ k, 0 < s.cnt k ∧ (k = .w → s.answers ≠ []) ∧
      ∀ pc, Co.kind pc = k → Co.live s pc → ∃ s' nx, Co.gstep s pc false = some (s', nx) :=
  Co.progressK (Co.inv_reach h) (Co.fixed_const h) hr hb

/-- the weaker form (some atom of some goroutine is enabled) -/
theorem C15_cor_nodeadlock_exists {cap s} (h : Co.Reach cap true s) (hr : s.retStarted = true)
    (hb : 0 < s.cnt .r0 ∨ 0 < s.cnt .r1 ∨ 0 < s.cnt .w ∨ 0 < s.cnt .isd ∨
          0 < s.cnt .gc0 + s.cnt .gc1 + s.cnt .gc2 + s.cnt .gc3) :
    ∃ pc ch s' nx, Co.gstep s pc ch = some (s', nx) :=
  Co.progress (Co.inv_reach h) (Co.fixed_const h) hr hb

/-- the code before cb38847 deadlocks: with opCh full a sender holds closedM inside the blocking send, the
    finishing target waits for closedM, and neither can step (capacity 1: two callers) -/
theorem C15_cor_unfixed_deadlock :
    ∃ s, Co.Reach 1 false s ∧ s.retStarted = true ∧ 0 < s.cnt .r1 ∧ 0 < s.cnt .gc2 ∧
      (Co.gstep s (.r1 2 6) false).isNone = true ∧ (Co.gstep s .gc2 false).isNone = true :=
  runActs_witness Co.Reach.spawn Co.Reach.step (fun s => s.retStarted = true ∧ 0 < s.cnt .r1 ∧ 0 < s.cnt .gc2 ∧
      (Co.gstep s (.r1 2 6) false).isNone = true ∧ (Co.gstep s .gc2 false).isNone = true)
    [(none, .r0 1 5), (some false, .r0 1 5), (some false, .r1 1 5), (none, .r0 2 6), (some false, .r0 2 6),
     (none, .gc0), (some false, .gc0), (some false, .gc1)] Co.Reach.init (by decide)

/-- the code before cb38847 strands callers: the target is done, a request it accepted sits unanswered in opCh
    and its caller waits on resultCh with no answer coming -/
theorem C15_cor_unfixed_stranded :
    ∃ s, Co.Reach 5 false s ∧ s.closeDone = true ∧ 0 < s.cnt .w ∧ s.answers = [] ∧ s.opCh ≠ [] :=
  runActs_witness Co.Reach.spawn Co.Reach.step
    (fun s => s.closeDone = true ∧ 0 < s.cnt .w ∧ s.answers = [] ∧ s.opCh ≠ [])
    [(none, .r0 1 5), (some false, .r0 1 5), (some false, .r1 1 5), (none, .gc0), (some false, .gc0), (some false, .gc1),
     (some false, .gc2)] Co.Reach.init (by decide)

/-! ## WorkerPool -/

/-- no goroutine panics on the pool's close path and the panic handler never sees a non-job panic -/
theorem C15_pool_safe {cap qc s} (h : Pl.Reach cap qc true s) : s.panic = false ∧ s.np = 0 :=
  ⟨(Pl.inv_reach h).nopanic, (Pl.inv_reach h).np0⟩

/-- the code before c8ecf0a: a worker's GetChannel() after the job queue was closed panics outside any job and
    the worker hands that panic to the pool's panic handler -/
theorem C15_pool_unfixed_handler : ∃ s, Pl.Reach 2 true false s ∧ s.np = 1 :=
  runActs_witness Pl.Reach.spawn Pl.Reach.step (·.np = 1)
    [(some false, .w0), (none, .pc0), (some false, .pc0), (some false, .pc1), (some false, .qc1), (some false, .qc2),
     (some false, .w1), (some false, .w2)] Pl.Reach.init (by decide)

/-- after Close has returned the pool reports closed and no closed-check has passed since: Schedule returns
    ErrWorkerPoolIsClosed and enqueues nothing, so no job submitted afterwards can run -/
theorem C15_pool_after {cap qc s} (h : Pl.Reach cap qc true s) :
    s.late = 0 ∧ (s.closeDone = true → s.pflag = true) :=
  ⟨(Pl.inv_reach h).late0, (Pl.inv_reach h).doneFlag⟩

theorem C15_pool_after_reports {cap qc s j ch s' nx} (h : Pl.Reach cap qc true s) (hd : s.closeDone = true)
    (hs : Pl.gstep s (.s0 j) ch = some (s', nx)) : nx = .fin .pclosed ∧ s'.jobs = s.jobs := by
  have hf := (Pl.inv_reach h).doneFlag hd
  obtain ⟨_, s1, hs1, rfl⟩ := Pl.gstep_some hs
  simp [Pl.step, hf] at hs1
  obtain ⟨rfl, rfl⟩ := hs1
  simp

/-- no deadlock, Close closes the job queue (the default `isJobQueueClosedWhenClose`): once Close has begun, as long
    as any goroutine is inside the pool (a Schedule mid-call, the closer, a worker) there is an occupied program
    counter kind whose goroutine can take its next atom whatever job/parameters it carries — WITHOUT the workers'
    expiry timer (`choice = false`): lock waiters are released by the lock holder, which never blocks, and idle
    workers by the closed job channel.  Jobs terminate (gate open). -/
theorem C15_pool_nodeadlock {cap s} (h : Pl.Reach cap true true s) (hcs : s.closeStarted = true)
    (hg : s.gate = true) (hb : ∃ k, 0 < s.cnt k) :
    ∃ k, 0 < s.cnt k ∧ ∀ pc, Pl.kind pc = k → ∃ s' nx, Pl.gstep s pc false = some (s', nx) :=
  Pl.progress (Pl.inv_reach h) hg false (fun _ => ⟨Pl.qclose_const h, hcs⟩) hb

/-- no deadlock, any setting of `isJobQueueClosedWhenClose` and at any time (before, during, after the Close):
    the same with the expiry timer of idle workers allowed to fire (`choice = true`) — when the job queue stays
    open an idle worker notices the pool flag only after its `time.After` -/
theorem C15_pool_nodeadlock_timer {cap qc s} (h : Pl.Reach cap qc true s) (hg : s.gate = true)
    (hb : ∃ k, 0 < s.cnt k) :
    ∃ k, 0 < s.cnt k ∧ ∀ pc, Pl.kind pc = k → ∃ s' nx, Pl.gstep s pc true = some (s', nx) :=
  Pl.progress (Pl.inv_reach h) hg true (fun h => by cases h) hb

/-- non-vacuity: an idle worker waits on the empty job channel while the Close is between setting the queue
    flag and closing the channels, jobs may finish -/
example : ∃ s, Pl.Reach 2 true true s ∧ s.closeStarted = true ∧ s.gate = true ∧ 0 < s.cnt .w3 ∧ 0 < s.cnt .qc1 ∧
    s.jobs = [] :=
  let ⟨s, hr, h1, h2⟩ := runActs_witness Pl.Reach.spawn Pl.Reach.step
    (fun s => s.closeStarted = true ∧ 0 < s.cnt .w3 ∧ 0 < s.cnt .qc1 ∧ s.jobs = [])
    [(some false, .w0), (some false, .w1), (some false, .w2), (none, .pc0), (some false, .pc0), (some false, .pc1)]
    Pl.Reach.init (by decide)
  ⟨{ s with gate := true }, Pl.Reach.gate hr, h1, rfl, h2⟩

/-! ## Executor: the driver's re-tabulation of the counters is the identity, so every state the directed-schedule
    executor visits is a `Reach` state of the component -/
theorem C15_exec_compact_mailbox (s : Mb.St) : Mb.compact s = s := Mb.compact_eq s
theorem C15_exec_compact_bcq (s : Bq.St) : Bq.compact s = s := Bq.compact_eq s
theorem C15_exec_compact_cor (s : Co.St) : Co.compact s = s := Co.compact_eq s
theorem C15_exec_compact_pool (s : Pl.St) : Pl.compact s = s := Pl.compact_eq s

/-- `Exec.run` is that fold followed by the final drain (definitional) -/
theorem C15_exec_run_eq {σ PC : Type} (ops : Ops σ PC) (e0 : Exec σ PC) (steps : List String) :
    Exec.run ops e0 steps =
      " ".intercalate ((execStates ops e0 steps).2.reverse ++ ["|", Exec.finish ops (execStates ops e0 steps).1]) := rfl

/-- every shared state the driver visits while executing ANY directed schedule line — after each step and after the
    final drain — is a `Reach` state of the component's transition system, so the safety / after-close / no-deadlock
    theorems above speak about exactly the states behind the predictions `handle` prints -/
theorem C15_exec_reach_mailbox (comp : String) (cap : Nat) (steps : List String) :
    Mb.Reach cap true (execStates (Mb.ops comp) (Mb.exec0 cap) steps).1.sh :=
  Exec.run_R (Mb.closed comp cap) steps _ Mb.Reach.init
theorem C15_exec_reach_bcq (c b : Nat) (steps : List String) :
    Bq.Reach c b true true (execStates Bq.ops (Bq.exec0 c b) steps).1.sh :=
  Exec.run_R (Bq.closed c b) steps _ Bq.Reach.init
theorem C15_exec_reach_cor (steps : List String) : Co.Reach 5 true (execStates Co.ops Co.exec0 steps).1.sh :=
  Exec.run_R Co.closed steps _ Co.Reach.init
theorem C15_exec_reach_pool (cap : Nat) (qc : Bool) (steps : List String) :
    Pl.Reach cap qc true (execStates Pl.ops (Pl.exec0 cap qc) steps).1.sh :=
  Exec.run_R (Pl.closed cap qc) steps _ Pl.Reach.init

/-- hence, e.g., no directed schedule whatsoever makes the model predict a panic (the `=panic` tokens of an
    observation can only come from the real code) -/
theorem C15_exec_never_panics_bcq (c b : Nat) (steps : List String) :
    (execStates Bq.ops (Bq.exec0 c b) steps).1.sh.panic = false :=
  C15_bcq_safe (C15_exec_reach_bcq c b steps)

/-! ## Protocol tie (regenerated from the repository on every run)
    `C15_body_*`: the exact statements of the small protocol functions (order of flag / close / send, lock mode,
    recover scope, guards).  `C15_skel_*`: the protocol skeleton of the larger functions.
    Both are compared as token lists (the strings cut at their blanks: same tokens, same order) because kernel
    string equality is quadratic in the length. -/

theorem C15_body_HandlerDef_Post : Gen.c15BodyToksOf "HandlerDef.Post" = some ["{", "if", "self.isClosed.Get()", "{", "return", "}", "defer", "func()", "{", "recover()", "}()", "self.ch", "<-", "fn", "}"] := by decide +kernel
theorem C15_body_HandlerDef_Close : Gen.c15BodyToksOf "HandlerDef.Close" = some ["{", "self.isClosed.Set(true)", "close(self.ch)", "}"] := by decide +kernel
theorem C15_body_HandlerDef_run : Gen.c15BodyToksOf "HandlerDef.run" = some ["{", "for", "fn", ":=", "range", "self.ch", "{", "fn()", "}", "}"] := by decide +kernel
theorem C15_body_ActorDef_Send : Gen.c15BodyToksOf "ActorDef.Send" = some ["{", "if", "self.isClosed.Get()", "{", "return", "}", "defer", "func()", "{", "recover()", "}()", "self.ch", "<-", "message", "}"] := by decide +kernel
theorem C15_body_ActorDef_Close : Gen.c15BodyToksOf "ActorDef.Close" = some ["{", "self.isClosed.Set(true)", "close(self.ch)", "}"] := by decide +kernel
theorem C15_body_ActorDef_run : Gen.c15BodyToksOf "ActorDef.run" = some ["{", "for", "message", ":=", "range", "self.ch", "{", "self.effect(self,", "message)", "}", "}"] := by decide +kernel
theorem C15_body_BufferedChannelQueue_notifyWorkers : Gen.c15BodyToksOf "BufferedChannelQueue.notifyWorkers" = some ["{", "self.lock.RLock()", "defer", "self.lock.RUnlock()", "if", "self.isClosed.Get()", "{", "return", "}", "self.loadWorkerCh.Offer(1)", "self.freeNodeWorkerCh.Offer(1)", "}"] := by decide +kernel
theorem C15_body_BufferedChannelQueue_Close : Gen.c15BodyToksOf "BufferedChannelQueue.Close" = some ["{", "self.lock.Lock()", "defer", "self.lock.Unlock()", "self.isClosed.Set(true)", "close(self.loadWorkerCh)", "close(self.blockingQueue)", "}"] := by decide +kernel
theorem C15_body_BufferedChannelQueue_Take : Gen.c15BodyToksOf "BufferedChannelQueue.Take" = some ["{", "if", "self.isClosed.Get()", "{", "return", "*new(T),", "ErrQueueIsClosed", "}", "self.notifyWorkers()", "return", "self.blockingQueue.Take()", "}"] := by decide +kernel
theorem C15_body_BufferedChannelQueue_TakeWithTimeout : Gen.c15BodyToksOf "BufferedChannelQueue.TakeWithTimeout" = some ["{", "if", "self.isClosed.Get()", "{", "return", "*new(T),", "ErrQueueIsClosed", "}", "self.notifyWorkers()", "return", "self.blockingQueue.TakeWithTimeout(timeout)", "}"] := by decide +kernel
theorem C15_body_BufferedChannelQueue_Poll : Gen.c15BodyToksOf "BufferedChannelQueue.Poll" = some ["{", "if", "self.isClosed.Get()", "{", "return", "*new(T),", "ErrQueueIsClosed", "}", "self.notifyWorkers()", "return", "self.blockingQueue.Poll()", "}"] := by decide +kernel
theorem C15_body_BufferedChannelQueue_GetChannel : Gen.c15BodyToksOf "BufferedChannelQueue.GetChannel" = some ["{", "self.notifyWorkers()", "return", "self.blockingQueue", "}"] := by decide +kernel
theorem C15_body_BufferedChannelQueue_Count : Gen.c15BodyToksOf "BufferedChannelQueue.Count" = some ["{", "if", "self.isClosed.Get()", "{", "return", "0", "}", "self.lock.RLock()", "defer", "self.lock.RUnlock()", "return", "len(self.blockingQueue)", "+", "self.pool.Count()", "}"] := by decide +kernel
theorem C15_body_BufferedChannelQueue_Put : Gen.c15BodyToksOf "BufferedChannelQueue.Put" = some ["{", "return", "self.Offer(val)", "}"] := by decide +kernel
theorem C15_body_ChannelQueue_Offer : Gen.c15BodyToksOf "ChannelQueue.Offer" = some ["{", "select", "{", "case", "self", "<-", "val:", "return", "nil", "default:", "return", "ErrQueueIsFull", "}", "}"] := by decide +kernel
theorem C15_body_ChannelQueue_Take : Gen.c15BodyToksOf "ChannelQueue.Take" = some ["{", "val,", "ok", ":=", "<-self", "if", "!ok", "{", "return", "*new(T),", "ErrQueueIsClosed", "}", "return", "val,", "nil", "}"] := by decide +kernel
theorem C15_body_ChannelQueue_Poll : Gen.c15BodyToksOf "ChannelQueue.Poll" = some ["{", "select", "{", "case", "val,", "ok", ":=", "<-self:", "if", "!ok", "{", "return", "*new(T),", "ErrQueueIsClosed", "}", "return", "val,", "nil", "default:", "return", "*new(T),", "ErrQueueIsEmpty", "}", "}"] := by decide +kernel
theorem C15_body_ChannelQueue_TakeWithTimeout : Gen.c15BodyToksOf "ChannelQueue.TakeWithTimeout" = some ["{", "select", "{", "case", "val,", "ok", ":=", "<-self:", "if", "!ok", "{", "return", "*new(T),", "ErrQueueIsClosed", "}", "return", "val,", "nil", "case", "<-time.After(timeout):", "return", "*new(T),", "ErrQueueTakeTimeout", "}", "}"] := by decide +kernel
theorem C15_body_CorDef_close : Gen.c15BodyToksOf "CorDef.close" = some ["{", "self.isClosed.Set(true)", "if", "self.doneCh", "!=", "nil", "{", "close(self.doneCh)", "}", "self.closedM.Lock()", "if", "self.resultCh", "!=", "nil", "{", "close(self.resultCh)", "}", "if", "self.opCh", "!=", "nil", "{", "close(self.opCh)", "}", "self.closedM.Unlock()", "if", "self.opCh", "!=", "nil", "{", "for", "op", ":=", "range", "self.opCh", "{", "if", "op", "!=", "nil", "&&", "op.cor", "!=", "nil", "{", "cor", ":=", "op.cor", "cor.doCloseSafe(func()", "{", "var", "zero", "T", "cor.resultCh", "<-", "zero", "})", "}", "}", "}", "}"] := by decide +kernel
theorem C15_body_CorDef_doCloseSafe : Gen.c15BodyToksOf "CorDef.doCloseSafe" = some ["{", "self.closedM.Lock()", "defer", "self.closedM.Unlock()", "if", "self.IsDone()", "{", "return", "}", "fn()", "}"] := by decide +kernel
theorem C15_body_CorDef_receive : Gen.c15BodyToksOf "CorDef.receive" = some ["{", "delivered", ":=", "false", "self.doCloseSafe(func()", "{", "if", "self.opCh", "!=", "nil", "{", "select", "{", "case", "self.opCh", "<-", "&CorOp[T]{cor:", "cor,", "val:", "in}:", "delivered", "=", "true", "case", "<-self.doneCh:", "}", "}", "})", "return", "delivered", "}"] := by decide +kernel
theorem C15_body_CorDef_YieldFrom : Gen.c15BodyToksOf "CorDef.YieldFrom" = some ["{", "var", "result", "T", "if", "self.IsDone()", "{", "return", "result", "}", "if", "!target.receive(self,", "in)", "{", "return", "result", "}", "result,", "_", "=", "<-self.resultCh", "return", "result", "}"] := by decide +kernel
theorem C15_body_CorDef_YieldRef : Gen.c15BodyToksOf "CorDef.YieldRef" = some ["{", "var", "result", "T", "if", "self.IsDone()", "{", "return", "result", "}", "var", "op", "*CorOp[T]", "var", "more", "bool", "op,", "more", "=", "<-self.opCh", "if", "more", "&&", "op", "!=", "nil", "&&", "op.cor", "!=", "nil", "{", "cor", ":=", "op.cor", "cor.doCloseSafe(func()", "{", "cor.resultCh", "<-", "out", "})", "}", "result", "=", "op.val", "return", "result", "}"] := by decide +kernel
theorem C15_body_CorDef_Start : Gen.c15BodyToksOf "CorDef.Start" = some ["{", "if", "self.IsDone()", "||", "self.isStarted.Get()", "{", "return", "}", "self.isStarted.Set(true)", "go", "func()", "{", "self.effect()", "self.close()", "}()", "}"] := by decide +kernel
theorem C15_body_DefaultWorkerPool_Close : Gen.c15BodyToksOf "worker.DefaultWorkerPool.Close" = some ["{", "if", "self.IsClosed()", "{", "return", "}", "self.isClosed.Set(true)", "if", "self.isJobQueueClosedWhenClose", "{", "self.jobQueue.Close()", "}", "}"] := by decide +kernel
theorem C15_body_DefaultWorkerPool_Schedule : Gen.c15BodyToksOf "worker.DefaultWorkerPool.Schedule" = some ["{", "if", "self.IsClosed()", "{", "return", "ErrWorkerPoolIsClosed", "}", "defer", "self.spawnWorkerCh.Offer(1)", "err", ":=", "self.jobQueue.Offer(fn)", "if", "err", "==", "fpgo.ErrQueueIsFull", "{", "return", "ErrWorkerPoolJobQueueIsFull", "}", "return", "err", "}"] := by decide +kernel
theorem C15_body_DefaultWorkerPool_IsClosed : Gen.c15BodyToksOf "worker.DefaultWorkerPool.IsClosed" = some ["{", "return", "self.isClosed.Get()", "}"] := by decide +kernel
theorem C15_body_DefaultInvokable_Invoke : Gen.c15BodyToksOf "worker.DefaultInvokable.Invoke" = some ["{", "callee", ":=", "self.callee", "self.workerPool.Schedule(func()", "{", "callee(val)", "})", "}"] := by decide +kernel
theorem C15_body_DefaultInvokable_InvokeWithTimeout : Gen.c15BodyToksOf "worker.DefaultInvokable.InvokeWithTimeout" = some ["{", "callee", ":=", "self.callee", "return", "self.workerPool.ScheduleWithTimeout(func()", "{", "callee(val)", "},", "timeout)", "}"] := by decide +kernel
theorem C15_body_AtomBool_Set : Gen.c15BodyToksOf "AtomBool.Set" = some ["{", "var", "i", "int32", "i", "=", "0", "if", "value", "{", "i", "=", "1", "}", "atomic.StoreInt32(&(self.flag),", "int32(i))", "}"] := by decide +kernel
theorem C15_body_AtomBool_Get : Gen.c15BodyToksOf "AtomBool.Get" = some ["{", "if", "atomic.LoadInt32(&(self.flag))", "!=", "0", "{", "return", "true", "}", "return", "false", "}"] := by decide +kernel
theorem C15_skel_BufferedChannelQueue_Offer : Gen.c15SkelToksOf "BufferedChannelQueue.Offer" = some ["call(lock.Lock)", "defer{call(lock.Unlock)}", "if[get(isClosed)", "call(isClosed.Get)]{return}", "get(pool)", "call(pool.Count)", "if[]{call(blockingQueue.Offer)", "if[]{return}else{if[]{}else{return}}}", "if[]{return}", "get(pool)", "call(pool.Offer)", "call(loadWorkerCh.Offer)", "return"] := by decide +kernel
theorem C15_skel_BufferedChannelQueue_loadFromPool : Gen.c15SkelToksOf "BufferedChannelQueue.loadFromPool" = some ["rangech(loadWorkerCh){if[get(isClosed)", "call(isClosed.Get)]{break}", "call(lock.Lock)", "if[get(isClosed)", "call(isClosed.Get)]{call(lock.Unlock)", "break}", "for[get(pool)", "call(pool.Count)]{get(pool)", "call(pool.Poll)", "if[]{break}", "call(blockingQueue.Offer)", "if[]{get(pool)", "call(pool.Unshift)", "break}}", "call(lock.Unlock)", "call(Sleep)}"] := by decide +kernel
theorem C15_skel_BufferedChannelQueue_freeNodePool : Gen.c15SkelToksOf "BufferedChannelQueue.freeNodePool" = some ["rangech(freeNodeWorkerCh){call(Sleep)", "if[get(isClosed)", "call(isClosed.Get)]{break}", "call(lock.Lock)", "if[get(pool)]{get(pool)", "call(pool.KeepNodePoolCount)}", "call(lock.Unlock)}"] := by decide +kernel
theorem C15_skel_NewBufferedChannelQueue : Gen.c15SkelToksOf "NewBufferedChannelQueue" = some ["call(NewLinkedListQueue)", "set(pool)", "call(NewChannelQueue)", "call(NewChannelQueue)", "call(NewChannelQueue)", "go{call(freeNodePool)}", "go{call(loadFromPool)}", "return"] := by decide +kernel
theorem C15_skel_HandlerDef_NewByCh : Gen.c15SkelToksOf "HandlerDef.NewByCh" = some ["go{call(run)}", "return"] := by decide +kernel
theorem C15_skel_ActorNewByOptionsGenerics : Gen.c15SkelToksOf "ActorNewByOptionsGenerics" = some ["go{call(run)}", "return"] := by decide +kernel
theorem C15_skel_DefaultWorkerPool_generateWorkerWithMaximum : Gen.c15SkelToksOf "worker.DefaultWorkerPool.generateWorkerWithMaximum" = some ["call(lock.Lock)", "defer{call(lock.Unlock)}", "if[get(workerCount)", "get(workerCount)]{return}", "get(workerCount)", "set(workerCount)", "go{defer{call(recover)", "if[]{if[]{callfn(handler)}}", "call(lock.Lock)", "if[]{get(workerCount)", "set(workerCount)}", "if[]{get(workerBusy)", "set(workerBusy)}", "call(lock.Unlock)", "if[]{call(spawnWorkerCh.Offer)}}", "for[]{if[call(IsClosed)]{return}", "select{call(jobQueue.GetChannel)", "recv(jobQueue.GetChannel())=>{if[]{call(lock.Lock)", "get(workerBusy)", "set(workerBusy)", "call(lock.Unlock)", "callfn(job)", "call(lock.Lock)", "get(workerBusy)", "set(workerBusy)", "call(lock.Unlock)}}", "|", "call(After)", "recv(After())=>{call(lock.Lock)", "get(workerCount)", "set(workerCount)", "if[]{get(workerCount)", "set(workerCount)", "call(lock.Unlock)", "break}", "call(lock.Unlock)}}}}"] := by decide +kernel
theorem C15_skel_DefaultWorkerPool_spawnLoop : Gen.c15SkelToksOf "worker.DefaultWorkerPool.spawnLoop" = some ["defer{call(recover)", "if[]{call(defaultPanicHandler)}}", "rangech(spawnWorkerCh){if[call(IsClosed)]{break}", "call(trySpawn)", "call(Sleep)}"] := by decide +kernel
theorem C15_skel_NewDefaultWorkerPool : Gen.c15SkelToksOf "worker.NewDefaultWorkerPool" = some ["call(NewChannelQueue)", "go{call(spawnLoop)}", "return"] := by decide +kernel

end FpgoVerif.C15
