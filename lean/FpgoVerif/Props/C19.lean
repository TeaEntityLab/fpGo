import FpgoVerif.Proofs.C19Desc
import FpgoVerif.Proofs.C19Heap
import FpgoVerif.Proofs.C19Oracle
import FpgoVerif.Gen.SortBuilder
/-! Property theorems for C19 — "Sorting yields an ordered, stable permutation; descriptors sort by key
    list".  All statements are about the definitions of `Model/C19.lean` that the driver executes.

    Standing assumption (see Model/C19.lean): `sort.SliceStable` is `sortBy` (= core `List.mergeSort`);
    `C19_sort_unique` shows that for a strict weak order ANY ordered, stable permutation equals
    `sortBy less l`, so the assumption is exactly "`sort.SliceStable` is a correct stable sort". -/
namespace FpgoVerif.C19

variable {α : Type}

/-! ## (1) generic: `Sort`, `SortSlice`, `Stream.Sort`, `Stream.SortByIndex` -/

/-- All comparator-based sort entry points of the library compute `sortBy fn input`
    (in place / on a clone / via the index comparator), and the ones that work on a clone leave the
    receiver's content as it was. -/
theorem C19_api_is_sortBy (fn : α → α → Bool) (l : List α) :
    sort fn l = sortBy fn l ∧ sortSlice fn l = sortBy fn l ∧
    streamSort fn l = (sortBy fn l, l) ∧ streamSortByIndex fn l = (sortBy fn l, l) :=
  ⟨rfl, rfl, rfl, rfl⟩

/-- permutation (any comparator) -/
theorem C19_sort_perm (less : α → α → Bool) (l : List α) : (sortBy less l).Perm l :=
  sortBy_perm less l

/-- ordered: no element precedes one that the comparator places strictly before it -/
theorem C19_sort_ordered {less : α → α → Bool} (h : StrictWeak less) (l : List α) :
    (sortBy less l).Pairwise (fun a b => less b a = false) :=
  sortBy_pairwise h l

/-- stable: each class of elements the comparator does not distinguish appears in its input order -/
theorem C19_sort_stable {less : α → α → Bool} (h : StrictWeak less) (l : List α) (x : α) :
    (sortBy less l).filter (equivBy less x) = l.filter (equivBy less x) :=
  sortBy_filter_equiv h l x

/-- stable, position form: tag every element with its input position; in the output, elements the
    comparator does not distinguish appear with increasing input positions. -/
theorem C19_sort_stable_positions {less : α → α → Bool} (h : StrictWeak less) (l : List α) :
    (sortBy (fun p q : α × Nat => less p.1 q.1) l.zipIdx).Pairwise
      (fun p q => equivBy less p.1 q.1 = true → p.2 < q.2) := by
  have hidx : (l.zipIdx).Pairwise (fun p q : α × Nat => p.2 < q.2) := by
    rw [List.pairwise_iff_getElem]
    intro i j hi hj hij
    simpa using hij
  exact sortBy_stable_idx (h.comap (·.1)) (·.2) l.zipIdx hidx

/-- uniqueness: an ordered, stable permutation of `l` IS `sortBy less l` — any correct stable sort
    (in particular `sort.SliceStable`) agrees with the model. -/
theorem C19_sort_unique {less : α → α → Bool} (h : StrictWeak less) (l r : List α)
    (hperm : r.Perm l) (hord : r.Pairwise (fun a b => less b a = false))
    (hstable : ∀ x, r.filter (equivBy less x) = l.filter (equivBy less x)) :
    r = sortBy less l :=
  stable_sorted_unique h r (sortBy less l) (hperm.trans (sortBy_perm less l).symm) hord
    (sortBy_pairwise h l) (fun x => (hstable x).trans (sortBy_filter_equiv h l x).symm)

/-! ## (2) the comparators the library builds -/

/-- `SortOrderedAscending` sorts by `<` : its comparator `CompareToOrdered(a, b) > 0` IS `a < b`. -/
theorem C19_sortOrdered_asc {κ : Type} (lt : κ → κ → Bool) (l : List κ) :
    sortOrderedAscending lt l = sortBy lt l ∧ sortOrdered lt true l = sortBy lt l := by
  have : (fun a b => decide (compareToOrdered lt a b > 0)) = lt := by
    funext a b
    cases h : lt a b <;> cases h' : lt b a <;> simp [compareToOrdered, h, h']
  simp [sortOrderedAscending, sortOrdered, sort, this]

/-- `SortOrderedDescending` sorts by `>` : its comparator `CompareToOrdered(a, b) < 0` IS `b < a`
    (for an asymmetric `<`, which Go's `<` on integers and strings is). -/
theorem C19_sortOrdered_desc {κ : Type} {lt : κ → κ → Bool} (h : StrictWeak lt) (l : List κ) :
    sortOrderedDescending lt l = sortBy (fun a b => lt b a) l ∧
    sortOrdered lt false l = sortBy (fun a b => lt b a) l := by
  have : (fun a b => decide (compareToOrdered lt a b < 0)) = (fun a b => lt b a) := by
    funext a b
    cases h1 : lt a b <;> cases h2 : lt b a <;> simp [compareToOrdered, h1, h2]
    have := h.asymm h1; rw [h2] at this; cases this
  simp [sortOrderedDescending, sortOrdered, sort, this]

/-- Go's `<` on `int` and on `string` (bytewise lexicographic = core's order on byte lists) and the
    natural order on keys are strict weak orders, so (1) applies to `SortOrdered*`. -/
theorem C19_natural_orders_strictWeak :
    StrictWeak intLt ∧ StrictWeak bytesLt ∧ StrictWeak Key.lt ∧
    (∀ a b : List Nat, bytesLt a b = true ↔ a < b) :=
  ⟨intLt_strictWeak, bytesLt_strictWeak, Key.lt_strictWeak, bytesLt_iff_lt⟩

/-- Go's `<` on floats without NaN (numeric value; `-0` and `+0` tie but can be told apart) is a strict
    weak order, so `SortOrdered*` on a float instantiation must keep `-0` / `+0` in input order
    (`C19_sort_stable`), ascending and descending (`C19_sortOrdered_desc`). -/
theorem C19_float_order_strictWeak : StrictWeak fltLt ∧ equivBy fltLt (0, true) (0, false) = true :=
  ⟨intLt_strictWeak.comap Prod.fst, by decide⟩

/-- A comparator that orders nil entries itself (nil first / nil last, non-nil entries by a strict weak
    `less`) is a strict weak order on `interface{}` lists with nil entries, so (1) — and the oracle
    theorem (4) — apply to the `interface{}` twins sorting such lists. -/
theorem C19_nil_comparator_strictWeak {β : Type} {less : β → β → Bool} (h : StrictWeak less) (nilFirst : Bool) :
    StrictWeak (nilLess nilFirst less) := by
  refine ⟨?_, ?_, ?_⟩
  · intro a; cases a <;> simp [nilLess, h.irrefl]
  · intro a b c hab hbc
    cases a <;> cases b <;> cases c <;> cases nilFirst <;> simp [nilLess] at hab hbc ⊢ <;> exact h.trans hab hbc
  · intro a b c hab
    cases a <;> cases b <;> cases c <;> cases nilFirst <;> simp [nilLess] at hab ⊢ <;> exact h.negTrans _ hab

/-- Both `CompareTo` implementations (`ComparableOrdered[T]`, `ComparableString`) follow one sign
    convention: negative / zero / positive iff the receiver is naturally before / equal to / after the
    argument.  (The pinned commit had `ComparableOrdered` the other way round.) -/
theorem C19_compareTo_sign (a b : Key) :
    (a.compareTo b < 0 ↔ a.lt b = true) ∧ (a.compareTo b = 0 ↔ a = b) ∧ (a.compareTo b > 0 ↔ b.lt a = true) := by
  have hne : ∀ {a b : Key}, a.lt b = true → a ≠ b := fun h e => by rw [e, Key.lt_irrefl] at h; cases h
  rw [Key.compareTo_eq]
  rcases Key.lt_trichotomy a b with rfl | h | h
  · simp [Key.lt_irrefl]
  · simp [h, Key.lt_strictWeak.asymm h, hne h]
  · simp [h, Key.lt_strictWeak.asymm h, (hne h).symm]

/-- The comparator of `SortBySortDescriptors` — the mirrored recursion of
    `_compareBySortDescriptors(…) < 0` incl. nil keys, direction and tie-break recursion — IS the
    lexicographic order by the descriptors' keys: natural order (nil first) for an ascending
    descriptor, reversed for a descending one, later descriptors breaking ties of earlier ones; for
    every mix of `ComparableOrdered[int]`, `ComparableOrdered[string]` and `ComparableString` keys. -/
theorem C19_desc (ds : List (Desc α)) (x y : α) : descLess ds x y = lexLt ds x y := by
  rw [descLess_eq_lexLt]

/-- … and it is a strict weak order, so (1) applies to the descriptor sorts. -/
theorem C19_desc_strictWeak (ds : List (Desc α)) : StrictWeak (descLess ds) := by
  rw [descLess_eq_lexLt]; exact lexLt_strictWeak ds

/-- per key kind, one descriptor: an ascending `ComparableOrdered[int]` descriptor compares by `<`,
    a descending one by `>`; likewise `ComparableString` with the bytewise string order. -/
theorem C19_desc_single (f : α → Int) (g : α → List Nat) (x y : α) :
    descLess [⟨fun r => some (.oi (f r)), true⟩] x y = decide (f x < f y) ∧
    descLess [⟨fun r => some (.oi (f r)), false⟩] x y = decide (f y < f x) ∧
    descLess [⟨fun r => some (.cs (g r)), true⟩] x y = bytesLt (g x) (g y) ∧
    descLess [⟨fun r => some (.cs (g r)), false⟩] x y = bytesLt (g y) (g x) ∧
    descLess [⟨fun r => some (.os (g r)), true⟩] x y = bytesLt (g x) (g y) ∧
    descLess [⟨fun r => some (.os (g r)), false⟩] x y = bytesLt (g y) (g x) := by
  simp [C19_desc, lexLt, Desc.keyLt, optLt, Key.lt]

/-- The pinned commit's comparator (result of `CompareTo` discarded, `>= 0`) answers "less" for an
    element against itself — it is not irreflexive, hence no strict weak order, for every descriptor
    stack: the contract of `sort.SliceStable` is broken on every input. -/
theorem C19_pinned_refuted (d : Desc α) (rest : List (Desc α)) (x : α) :
    descLessPinned (d :: rest) x x = true ∧ ¬ StrictWeak (descLessPinned (d :: rest)) := by
  have h0 : compareBySortDescriptorsPinned d rest x x = 0 := by
    induction rest generalizing d with
    | nil => cases hk : d.key x <;> simp [compareBySortDescriptorsPinned, hk]
    | cons d' rest' ih => cases hk : d.key x <;> simp [compareBySortDescriptorsPinned, hk, ih d']
  have h1 : descLessPinned (d :: rest) x x = true := by simp [descLessPinned, h0]
  exact ⟨h1, fun hsw => by have := hsw.1 x; rw [h1] at this; cases this⟩

/-! ## (3) the descriptor sorts, composed -/

/-- "without modifying the input", at the level of slices and backing arrays: for ANY heap and any
    well-formed caller slice, `result := append(input[:0:0], input...)` + in-place sort leaves every
    slice of every pre-existing backing array (the caller's `input` and all its aliases) reading as
    before, and the returned slice holds the sorted copy. -/
theorem C19_sortedList_heap (ds : List (Desc α)) (h : Heap α) (input : Slice)
    (hwf : input.off + input.len ≤ (h.getD input.arr []).length) :
    (sortedListH ds h input).1.read (sortedListH ds h input).2 = sortBy (descLess ds) (h.read input) ∧
    ∀ s' : Slice, s'.arr < h.length → (sortedListH ds h input).1.read s' = h.read s' := by
  have hlen := read_length h input hwf
  have hemp : h.read { arr := input.arr, off := input.off, len := 0, cap := 0 } = [] := by simp [Heap.read]
  by_cases h0 : input.len = 0
  · have hr : h.read input = [] := read_len_zero h input h0
    simp [sortedListH, Heap.append, Slice.emptyNoCap, hr, hemp, sortH, write_nil, sort, sortBy]
  · have hpos : ¬ (h.read input).length ≤ 0 := by omega
    simp only [sortedListH, Heap.append, Slice.emptyNoCap, Nat.zero_add, hpos, if_false, hemp, List.nil_append, sortH]
    generalize h.read input = xs
    rw [read_fresh h xs _ _ (Nat.le_refl _)]
    exact ⟨write_fresh_read h xs _ _ (sort_length _ xs), fun s' hs' => write_fresh_read_old h xs _ _ s' hs'⟩

/-- the pure view of `SortedListBySortDescriptors`: (sorted copy, untouched input) -/
theorem sortedListBySortDescriptors_eq (ds : List (Desc α)) (l : List α) :
    sortedListBySortDescriptors ds l = (sortBy (descLess ds) l, l) := by
  have hrd : Heap.read [l] ⟨0, 0, l.length, l.length⟩ = l := by simp [Heap.read]
  have := C19_sortedList_heap ds [l] ⟨0, 0, l.length, l.length⟩ (by simp)
  simp only [sortedListBySortDescriptors]
  rw [this.1, this.2 _ (by simp), hrd]

/-- `SortedListBySortDescriptors` / `ToSortedList`: the result is a permutation of the input, ordered
    lexicographically by the descriptors' keys, stable, and the input is left as it was. -/
theorem C19_sortedList (ds : List (Desc α)) (l : List α) :
    let (r, after) := sortedListBySortDescriptors ds l
    r.Perm l ∧ r.Pairwise (fun a b => lexLt ds b a = false) ∧
    (∀ x, r.filter (equivBy (lexLt ds) x) = l.filter (equivBy (lexLt ds) x)) ∧ after = l := by
  rw [sortedListBySortDescriptors_eq, descLess_eq_lexLt]
  obtain ⟨h1, h2, h3⟩ := sortBy_spec (lexLt_strictWeak ds) l
  exact ⟨h1, h2, h3, rfl⟩

/-- the capacity in `input[:0:0]` matters: with `input[:0]` the "copy" aliases the input and the
    caller's slice is sorted in place (a concrete heap). -/
theorem C19_alias_variant_modifies_input :
    let ds : List (Desc Int) := [⟨fun r => some (.oi r), true⟩]
    let input : Slice := ⟨0, 0, 2, 2⟩
    (sortedListAliasH ds [[2, 1]] input).1.read input = [1, 2] ∧ Heap.read [[2, 1]] input = [2, 1] := by
  simp [sortedListAliasH, Heap.append, Slice.emptyKeepCap, Heap.read, Heap.write, sortH, sort, descLess_eq_lexLt,
    sortBy, List.mergeSort, List.MergeSort.Internal.splitInTwo, lexLt, Desc.keyLt, optLt, Key.lt]

/-- `SortBySortDescriptors` / `builder.Sort`: the same, in place. -/
theorem C19_sortInPlace (ds : List (Desc α)) (l : List α) :
    let r := sortBySortDescriptors ds l
    r.Perm l ∧ r.Pairwise (fun a b => lexLt ds b a = false) ∧
    (∀ x, r.filter (equivBy (lexLt ds) x) = l.filter (equivBy (lexLt ds) x)) := by
  simp only [sortBySortDescriptors, sort, descLess_eq_lexLt]
  exact sortBy_spec (lexLt_strictWeak ds) l

/-! ## (3b) builders are values: forked builders sort by their OWN descriptor list -/

/-- Regenerated fact (closing theorem over `Gen/SortBuilder.lean`, re-extracted from sortDescriptor.go on
    every run): `NewSortDescriptorsBuilder` returns a slice of length 0 and capacity `builderInitCap` = 0,
    and every `ThenWith…` method appends to the receiver — the two facts the heap model of the builder
    (`newBuilder`, `thenWith`) assumes. -/
theorem C19_builder_code_shape :
    Gen.sortBuilderNew = .lenCap 0 builderInitCap ∧
    Gen.sortBuilderThenWith =
      [("ThenWith", .receiver), ("ThenWithFieldName", .receiver), ("ThenWithTransformerFunctor", .receiver)] ∧
    -- … and no `ThenWith…` method has a return path that hands out anything but the result of that append
    -- (in particular never the caller's argument slice)
    Gen.sortBuilderThenWithReturns =
      [("ThenWith", []), ("ThenWithFieldName", []), ("ThenWithTransformerFunctor", [])] := by
  decide

/-- Forking on ANY heap: from a FULL builder slice `p` (len = cap) derive any number of siblings by one
    `ThenWith…(d)` each.  Afterwards every sibling holds `p`'s descriptors followed by its own `d`, and
    `p` (and every other slice of an older backing array) reads as before: `ThenWith` returns
    `prefix ++ [d]` and leaves the receiver's descriptor list intact. -/
theorem C19_builder_fork {δ : Type} (h : Heap δ) (p : Slice) (ds : List δ)
    (hfull : p.len = p.cap) (hp : p.len = 0 ∨ p.arr < h.length) :
    let r := deriveSiblings h p (ds.map (fun d => [d]))
    r.2.map r.1.read = ds.map (fun d => h.read p ++ [d]) ∧
    ∀ s' : Slice, (s'.len = 0 ∨ s'.arr < h.length) → r.1.read s' = h.read s' := by
  induction ds generalizing h with
  | nil => simp [deriveSiblings]
  | cons d ds ih =>
    -- an old slice is still old after the allocation
    have old (s : Slice) (hs : s.len = 0 ∨ s.arr < h.length) :
        s.len = 0 ∨ s.arr < (h ++ [h.read p ++ [d]]).length := hs.imp_right fun hs => by simp; omega
    have ih := ih (h ++ [h.read p ++ [d]]) (old p hp)
    simp only [List.map_cons, deriveSiblings, thenWithChain, thenWith, append_full h p d hfull] at ih ⊢
    rw [read_append_old h _ p hp] at ih
    refine ⟨?_, fun s' hs' => ?_⟩
    · simp only [List.cons.injEq]
      refine ⟨?_, ih.1⟩
      rw [ih.2 _ (.inr (by simp))]
      exact read_fresh h _ _ _ (by have := read_take_le h p; simp; omega)
    · rw [ih.2 s' (old s' hs')]
      exact read_append_old h _ s' hs'

/-- A builder made by `NewSortDescriptorsBuilder()` and at most two `ThenWith…` calls IS full (Go grows
    0 → 1 → 2), so for every prefix of 1..2 keys and every list of sibling descriptors the builders of
    the model hold exactly `prefix` and `prefix ++ [d]` — stacks of up to 3 keys, the property's range. -/
theorem C19_forked_builders {δ : Type} (pre ds : List δ) (hlen : pre.length ≤ 2) :
    forkedBuilders pre (ds.map (fun d => [d])) = pre :: ds.map (fun d => pre ++ [d]) := by
  obtain ⟨h1, h2, h3⟩ := chain_full pre hlen
  simp only [forkedBuilders, forkedBuildersCap, builderInitCap]
  generalize thenWithChain (newBuilderCap 0 ([] : Heap δ)).1 (newBuilderCap 0 ([] : Heap δ)).2 pre = r at h1 h2 h3
  obtain ⟨h, p⟩ := r
  simp only at h1 h2 h3
  have := C19_builder_fork h p ds h1 (.inr h3)
  simp only [List.map_cons, List.cons.injEq]
  rw [h2] at this
  exact ⟨by rw [this.2 p (.inr h3)]; exact h2, this.1⟩

/-- If the constructor reserved capacity (`make(SortDescriptorsBuilder[T], 0, 4)`), two siblings of a
    one-key builder WOULD share a backing array and the first-derived one would hold its sibling's
    descriptor — this is why `C19_builder_code_shape` pins the capacity. -/
theorem C19_builder_reserved_capacity_aliases {δ : Type} (a b c : δ) :
    forkedBuildersCap 4 [a] [[b], [c]] = [[a], [a, c], [a, c]] := by
  simp [forkedBuildersCap, newBuilderCap, thenWithChain, thenWith, deriveSiblings, Heap.append, Heap.read,
    Heap.write]

/-- Latent in the CURRENT code, beyond the property's 1..3 keys: a three-key builder has capacity 4
    (0 → 1 → 2 → 4), so two FOUR-key builders forked from it alias in the same way. -/
theorem C19_builder_fork_of_three_keys_aliases {δ : Type} (a b c d e : δ) :
    forkedBuilders [a, b, c] [[d], [e]] = [[a, b, c], [a, b, c, e], [a, b, c, e]] := by
  simp [forkedBuilders, forkedBuildersCap, builderInitCap, newBuilderCap, thenWithChain, thenWith, deriveSiblings,
    Heap.append, Heap.read, Heap.write, growCap]

/-- A caller-owned descriptor slice spread into an EMPTY builder is COPIED (`append` onto capacity 0
    allocates): whatever prefix `all[:k]` is spread (k = 1, 2; |all| = 2, 3), however the builder is
    extended afterwards and whatever the caller then writes into its slice (up to |all| entries), the
    builder holds `all[:k]`, its extension `all[:k] ++ [ext]`, and the caller's slice holds exactly its own
    writes.  (Shapes enumerated up to the property's 3 keys; elements arbitrary.) -/
theorem C19_spread_builder_copies {δ : Type} (a b c e w0 w1 w2 : δ) :
    spreadRun false [a, b] 1 [] e = [[a], [a, e], [a, b]] ∧
    spreadRun false [a, b] 2 [w0, w1] e = [[a, b], [a, b, e], [w0, w1]] ∧
    spreadRun false [a, b, c] 1 [w0] e = [[a], [a, e], [w0, b, c]] ∧
    spreadRun false [a, b, c] 2 [w0, w1, w2] e = [[a, b], [a, b, e], [w0, w1, w2]] ∧
    spreadRun false [a, b, c] 2 [] e = [[a, b], [a, b, e], [a, b, c]] := by
  simp [spreadRun, newBuilder, newBuilderCap, builderInitCap, thenWith, Heap.append, Heap.read, Heap.write,
    overwritePrefix, growCap]

/-- If `ThenWith` on an empty builder ADOPTED the argument slice instead (not the code; pinned by
    `C19_builder_code_shape`): the builder's extension would land in the caller's `all[1]`, and the
    caller's later writes would show through the builder. -/
theorem C19_spread_adoption_aliases {δ : Type} (a b c e w0 : δ) :
    spreadRun true [a, b, c] 1 [] e = [[a], [a, e], [a, e, c]] ∧
    spreadRun true [a, b] 2 [w0] e = [[w0, b], [a, b, e], [w0, b]] := by
  simp [spreadRun, newBuilder, newBuilderCap, builderInitCap, thenWith, Heap.append, Heap.read, Heap.write,
    overwritePrefix, growCap]

/-! ## (4) oracle = model: what `judge` accepts is exactly what `handle` answers -/

/-- The judge's oracle evaluates the property's own statement on the observed id sequence
    (permutation ∧ ordered by the comparator ∧ stable).  For a strict weak comparator it accepts an
    observation iff it is the model's answer — so on `C` cases every model/implementation mismatch is a
    violation of the property and there is nothing the judge could excuse. -/
theorem C19_oracle_accepts_exactly_model {β : Type} {less : β → β → Bool} (h : StrictWeak less)
    (recs : List β) (ids : List Nat) :
    verdict less recs ids = "allowed ordered stable permutation" ↔ ids = modelIds less recs :=
  (verdict_allowed_iff less recs ids).trans (acceptsB_iff h recs ids)

/-- The same for descriptor (`D`) cases: the oracle orders by the SPEC (`lexLt ds` on the keys), the
    model sorts with the mirrored `_compareBySortDescriptors`; they accept / produce the same sequence. -/
theorem C19_oracle_desc (ds : List (Desc Rec)) (recs : List Rec) (ids : List Nat) :
    verdict (lexLt ds) recs ids = "allowed ordered stable permutation" ↔
      ids = (sortBySortDescriptors (ds.map liftDesc) (tag recs)).map (·.1) := by
  rw [C19_oracle_accepts_exactly_model (lexLt_strictWeak ds), modelIds, sortBySortDescriptors, descLess_liftDesc]

/-! ## non-vacuity -/

/-- a full builder in a non-trivial heap: the one-key builder `New().ThenWith(d)` -/
example : (⟨1, 0, 1, 1⟩ : Slice).len = (⟨1, 0, 1, 1⟩ : Slice).cap ∧
    ((⟨1, 0, 1, 1⟩ : Slice).len = 0 ∨ (⟨1, 0, 1, 1⟩ : Slice).arr < ([[], [7]] : Heap Nat).length) := by decide

/-- a well-formed caller slice that is a window of a larger array with an alias next to it -/
example : (⟨0, 1, 2, 3⟩ : Slice).off + (⟨0, 1, 2, 3⟩ : Slice).len ≤ ((([[5, 3, 4, 1]] : Heap Nat)).getD 0 []).length := by
  decide


/-- a comparator with ties that is a strict weak order: parity -/
example : StrictWeak (fun a b : Nat => decide (a % 2 < b % 2)) := natLt_strictWeak.comap (· % 2)

/-- the theorems with a `StrictWeak` hypothesis apply to that comparator, to Go's `<` on ints and
    strings, and to every descriptor comparator -/
example (l : List Nat) := C19_sort_stable (less := fun a b : Nat => decide (a % 2 < b % 2))
  (natLt_strictWeak.comap (· % 2)) l
example (l : List Int) := C19_sortOrdered_desc C19_natural_orders_strictWeak.1 l
example (l : List (List Nat)) := C19_sortOrdered_desc C19_natural_orders_strictWeak.2.1 l
example (ds : List (Desc Rec)) (l : List Rec) := C19_sort_unique (C19_desc_strictWeak ds) l
example (recs : List Rec) (ids : List Nat) :=
  C19_oracle_accepts_exactly_model (less := fun x y : Rec => decide (getA x % 2 < getA y % 2))
    (intLt_strictWeak.comap (getA · % 2)) recs ids

/-- ties are really kept in input order, non-ties really move -/
example : sortBy (fun a b : Nat => decide (a % 2 < b % 2)) [3, 2, 1, 4, 5] = [2, 4, 3, 1, 5] := by
  simp [sortBy, List.mergeSort, List.MergeSort.Internal.splitInTwo]

/-- the repository's own example (Age descending, then Name ascending): AB50 / AD30 / BC30 -/
example :
    let recs : List (Int × List Nat) := [(30, [66, 67]), (30, [65, 68]), (50, [65, 66])]
    let ds : List (Desc (Int × List Nat)) :=
      [⟨fun r => some (.oi r.1), false⟩, ⟨fun r => some (.cs r.2), true⟩]
    (sortedListBySortDescriptors ds recs).1 = [(50, [65, 66]), (30, [65, 68]), (30, [66, 67])] := by
  simp [sortedListBySortDescriptors_eq, descLess_eq_lexLt, sortBy, List.mergeSort,
    List.MergeSort.Internal.splitInTwo, lexLt, Desc.keyLt, optLt, Key.lt, bytesLt]

/-- nil keys come first for an ascending descriptor and ties among them are broken by the next one -/
example :
    let ds : List (Desc (Option Int × Int)) :=
      [⟨fun r => r.1.map Key.oi, true⟩, ⟨fun r => some (.oi r.2), false⟩]
    sortBySortDescriptors ds [(some 1, 0), (none, 1), (some 0, 5), (none, 2)] =
      [(none, 2), (none, 1), (some 0, 5), (some 1, 0)] := by
  simp [sortBySortDescriptors, sort, descLess_eq_lexLt, sortBy, List.mergeSort,
    List.MergeSort.Internal.splitInTwo, lexLt, Desc.keyLt, optLt, Key.lt]

end FpgoVerif.C19
