/-! C17, part 1 (core-only): strings as `List Char` (one `Char` per byte), `strings.ReplaceAll`,
    `replacePathParams` (network/simpleHTTP.go l.500-506) and the specification of "every supplied
    {key} replaced by its value" as a simultaneous substitution on a tokenised template. -/
namespace FpgoVerif.C17

abbrev Str := List Char

/-- `strings.ReplaceAll s pat rep` for a NON-EMPTY pattern: leftmost, non-overlapping occurrences,
    left to right.  The `Nat` is the number of characters of a matched occurrence still to skip. -/
def replaceAllAux (pat rep : Str) : Nat → Str → Str
  | _, [] => []
  | k + 1, _ :: s => replaceAllAux pat rep k s
  | 0, c :: s =>
    if pat.isPrefixOf (c :: s) then rep ++ replaceAllAux pat rep (pat.length - 1) s
    else c :: replaceAllAux pat rep 0 s

def replaceAll (s pat rep : Str) : Str := replaceAllAux pat rep 0 s

/-- a `PathParam` value as the harness supplies it; `sprintV` is `fmt.Sprintf("%v", v)` -/
inductive Val | str (s : Str) | int (i : Int)
deriving DecidableEq, Repr

def sprintV : Val → Str
  | .str s => s
  | .int i => (toString i).toList

/-- `fmt.Sprintf("{%s}", k)` -/
def placeholder (k : Str) : Str := '{' :: (k ++ ['}'])

/-- the loop of `replacePathParams`: one `ReplaceAll` per map entry, on the running result (the
    `fix:` commit f67e541; `pinned = true` is the old code that restarted from the template).
    `ps` is the parameter map IN ITERATION ORDER (Go randomises it: theorems hold for every order). -/
def replaceLoop (pinned : Bool) (tmpl : Str) (ps : List (Str × Val)) : Str :=
  ps.foldl (fun finalURL kv => replaceAll (if pinned then tmpl else finalURL) (placeholder kv.1) (sprintV kv.2)) tmpl

def replacePathParams (base tmpl : Str) (ps : List (Str × Val)) : Str :=
  base ++ '/' :: replaceLoop false tmpl ps

/-! ### Specification: templates are literal characters and `{name}` placeholders -/

inductive Tok | lit (c : Char) | hole (name : Str)
deriving DecidableEq, Repr

def renderTok : Tok → Str
  | .lit c => [c]
  | .hole n => placeholder n

def render (ts : List Tok) : Str := ts.flatMap renderTok

/-- a well-formed template: literal text never contains `{`, placeholder names contain no brace -/
def Tok.clean : Tok → Bool
  | .lit c => c != '{'
  | .hole n => !n.contains '{' && !n.contains '}'

def lookupKey (k : Str) : List (Str × Val) → Option Val
  | [] => none
  | (k', v) :: ps => if k' = k then some v else lookupKey k ps

/-- simultaneous substitution: every supplied `{key}` becomes its value, everything else stays -/
def substTokSpec (ps : List (Str × Val)) : Tok → Str
  | .lit c => [c]
  | .hole n => match lookupKey n ps with
    | some v => sprintV v
    | none => placeholder n

def Spec.subst (ts : List Tok) (ps : List (Str × Val)) : Str := ts.flatMap (substTokSpec ps)

/-- the unique well-formed reading of a template string (`none` = not well-formed: a `{` that does
    not start a brace-free `{name}`) -/
def tokenizeAux : Option Str → Str → Option (List Tok)
  | none, [] => some []
  | none, c :: s =>
    if c = '{' then tokenizeAux (some []) s
    else (tokenizeAux none s).map (Tok.lit c :: ·)
  | some _, [] => none
  | some n, c :: s =>
    if c = '}' then (tokenizeAux none s).map (Tok.hole n :: ·)
    else if c = '{' then none
    else tokenizeAux (some (n ++ [c])) s

def tokenize (s : Str) : Option (List Tok) := tokenizeAux none s

/-- the decidable side condition of the URL law (what makes one-key-at-a-time replacement equal to
    simultaneous substitution): no key contains `}`, no printed value contains `{`.  (That the keys are distinct — a Go
    map — is a hypothesis of its own in the theorems.) -/
def paramsOK (ps : List (Str × Val)) : Bool :=
  ps.all (fun kv => !kv.1.contains '}' && !(sprintV kv.2).contains '{')

def keysDistinct : List (Str × Val) → Bool
  | [] => true
  | (k, _) :: ps => (lookupKey k ps).isNone && keysDistinct ps

end FpgoVerif.C17
