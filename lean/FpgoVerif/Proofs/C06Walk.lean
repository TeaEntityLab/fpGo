import FpgoVerif.Proofs.C06Ops
/-! The loops: Clear, putAllIntoPool (ClearNodePool / KeepNodePoolCount), VerifNodeCount.
    Under the representation invariant none of them runs out of fuel, and each has a closed form. -/
namespace FpgoVerif.C06

def zeroOn {β} (l : List Addr) (f : Addr → Option β) : Addr → Option β := fun a => if a ∈ l then none else f a

section
variable {β} {l : List Addr} {f : Addr → Option β} {a : Addr}

theorem zeroOn_mem (h : a ∈ l) : zeroOn l f a = none := by simp [zeroOn, h]
theorem zeroOn_not_mem (h : a ∉ l) : zeroOn l f a = f a := by simp [zeroOn, h]
theorem zeroOn_nil : zeroOn [] f = f := by funext a; simp [zeroOn]
theorem zeroOn_upd (n : Addr) : zeroOn l (upd f n none) = zeroOn (n :: l) f := by
  funext a
  by_cases h1 : a = n
  · subst h1; simp [zeroOn, upd]
  · simp [zeroOn, upd, h1]

end

theorem clearWalk_spec (fuel : Nat) {q : Q} {o l} (hs : Seg q.next o l) (hf : l.length < fuel) :
    clearWalk fuel q o = some { q with val := zeroOn l q.val, prev := zeroOn l q.prev } := by
  induction fuel generalizing q o l with
  | zero => omega
  | succ fuel ih =>
    cases hs with
    | nil => simp [clearWalk, zeroOn_nil]
    | cons n l' hs' =>
      simp only [clearWalk]
      rw [ih (q := { q with val := upd q.val n none, prev := upd q.prev n none }) hs' (Nat.lt_of_succ_lt_succ hf)]
      simp [zeroOn_upd]

theorem putAllIntoPool_spec (fuel : Nat) {q : Q} {o l} (hs : Seg q.next o l) (hnd : l.Nodup) (hf : l.length < fuel) :
    putAllIntoPool fuel q o = some { q with val := zeroOn l q.val, prev := zeroOn l q.prev, next := zeroOn l q.next,
                                            gc := l.reverse ++ q.gc } := by
  induction fuel generalizing q o l with
  | zero => omega
  | succ fuel ih =>
    cases hs with
    | nil => simp [putAllIntoPool, zeroOn_nil]
    | cons n l' hs' =>
      simp only [putAllIntoPool]
      rw [ih (q := { q with val := upd q.val n none, prev := upd q.prev n none, next := upd q.next n none, gc := n :: q.gc })
        (hs'.frame n none (List.nodup_cons.mp hnd).1) (List.nodup_cons.mp hnd).2 (Nat.lt_of_succ_lt_succ hf)]
      simp [zeroOn_upd]

theorem walkLen_spec (fuel : Nat) {f : Addr → Option Addr} {o l} (hs : Seg f o l) (hf : l.length < fuel) :
    walkLen fuel f o = some l.length := by
  induction fuel generalizing o l with
  | zero => omega
  | succ fuel ih =>
    cases hs with
    | nil => simp [walkLen]
    | cons n l' hs' =>
      simp only [walkLen]
      rw [ih hs' (Nat.lt_of_succ_lt_succ hf)]
      simp

theorem Rep0.pool_len_lt {q vs chain pool} (h : Rep0 q vs chain pool) : pool.length < q.fresh + 1 :=
  (h.owns.sublist (List.sublist_append_right chain pool)).length_lt

theorem clear_rep {q : Q} {vs chain pool} (h : Rep q vs chain pool) :
    ∃ q', clear q = some q' ∧ Rep q' [] [] chain := by
  have o := h.owns.sublist (List.sublist_append_left chain pool)
  have hw := clearWalk_spec (q.fresh + 1) (q := { q with poolFirst := q.first, nodeCount := q.count }) h.hnext o.length_lt
  refine ⟨_, by simp only [clear]; rw [hw]; rfl, ?_⟩
  exact ⟨⟨.nil, .nil, h.hnext, o.nd, o.lt, rfl, rfl, h.gnd, o.gdisj, h.glt,
    fun a ha => by simp only [zeroOn_not_mem (o.gdisj a ha)]; exact h.gzero a ha⟩, h.hcount⟩

/-- the nodes `suf` at the far end of the free list have been zeroed and `Put` into the sync.Pool.  The caller
    supplies the `next` links of the remaining free list `pre` (`hpool`: it has to end there); everywhere else the
    links are the zeroed old ones (`hnx`) -/
theorem put_rep {q : Q} {vs chain pre suf} (h : Rep0 q vs chain (pre ++ suf)) {next' : Addr → Option Addr}
    {poolFirst' : Option Addr} {nodeCount' : Int} (hpool : Seg next' poolFirst' pre)
    (hnx : ∀ x, x ∉ pre → next' x = zeroOn suf q.next x) :
    Rep0 { q with val := zeroOn suf q.val, prev := zeroOn suf q.prev, next := next', gc := suf.reverse ++ q.gc,
                  poolFirst := poolFirst', nodeCount := nodeCount' } vs chain pre := by
  have hpn := List.nodup_append.1 h.pool_nodup
  have o := h.owns.sublist ((List.sublist_append_left pre suf).append_left chain)
  have hcs : ∀ x ∈ chain, x ∉ suf := fun x hx hm => h.disj hx (List.mem_append_right _ hm)
  have hcp : ∀ x ∈ chain, x ∉ pre := fun x hx hm => h.disj hx (List.mem_append_left _ hm)
  have hgd : ∀ a ∈ suf.reverse ++ q.gc, a ∉ chain ++ pre := by
    intro a ha hm
    rcases List.mem_append.1 ha with ha | ha
    · have has := List.mem_reverse.1 ha
      exact (List.mem_append.1 hm).elim (fun hc => hcs a hc has) fun hp => hpn.2.2 a hp a has rfl
    · exact o.gdisj a ha hm
  refine ⟨h.hnext.congr fun x hx => ?_, h.hprev.congr fun x hx => zeroOn_not_mem (hcs x (List.mem_reverse.1 hx)),
    hpool, o.nd, o.lt, ?_, h.hcount, ?_, hgd, ?_, fun a ha => ?_⟩
  · exact (hnx x (hcp x hx)).trans (zeroOn_not_mem (hcs x hx))
  · exact (List.map_congr_left fun x hx => zeroOn_not_mem (hcs x hx)).trans h.hval
  · refine List.nodup_append.2 ⟨(List.reverse_perm _).nodup_iff.2 hpn.2.1, h.gnd, fun a ha b hb e => ?_⟩
    exact h.gdisj b hb (List.mem_append_right _ (List.mem_append_right _ (e ▸ List.mem_reverse.1 ha)))
  · intro a ha
    rcases List.mem_append.1 ha with ha | ha
    · exact h.lt a (List.mem_append_right _ (List.mem_append_right _ (List.mem_reverse.1 ha)))
    · exact h.glt a ha
  · simp only [hnx a fun hp => hgd a ha (List.mem_append_right _ hp)]
    by_cases hs : a ∈ suf
    · simp only [zeroOn_mem hs, and_self]
    · simp only [zeroOn_not_mem hs]
      exact h.gzero a ((List.mem_append.1 ha).resolve_left fun hr => hs (List.mem_reverse.1 hr))

theorem clearNodePool_rep {q : Q} {vs chain pool} (h : Rep0 q vs chain pool) :
    ∃ q', clearNodePool q = some q' ∧ Rep q' vs chain [] := by
  have hw := putAllIntoPool_spec (q.fresh + 1) h.hpool h.pool_nodup h.pool_len_lt
  refine ⟨_, by simp only [clearNodePool]; rw [hw]; rfl, ?_, rfl⟩
  exact put_rep (pre := []) (suf := pool) h .nil fun _ _ => rfl

/-- the tail end of KeepNodePoolCount: everything behind `a` goes to the sync.Pool, `a` becomes the last node -/
theorem put_cut {q : Q} {vs chain pre a suf} (h : Rep0 q vs chain (pre ++ a :: suf)) :
    ∃ q', putAllIntoPool (q.fresh + 1) q (q.next a) = some q' ∧
      Rep0 { q' with next := upd q'.next a none } vs chain (pre ++ [a]) ∧ q'.nodeCount = q.nodeCount := by
  have hpn := h.pool_nodup
  have hsn : suf.Nodup := (List.nodup_cons.1 (List.nodup_append.1 hpn).2.1).2
  have hlen : suf.length < q.fresh + 1 := by
    have := h.pool_len_lt; simp at this; omega
  refine ⟨_, putAllIntoPool_spec (q.fresh + 1) h.hpool.drop hsn hlen, ?_, rfl⟩
  have h' : Rep0 q vs chain ((pre ++ [a]) ++ suf) := by simpa using h
  refine put_rep h' (h.hpool.cut (fun x hx => ?_) (upd_same ..)) fun x hx => upd_other _ _ _ _ fun e => hx (by simp [e])
  have hxa : x ≠ a := fun e => (List.nodup_append.1 hpn).2.2 x hx a List.mem_cons_self e
  have hxs : x ∉ suf := fun hm => (List.nodup_append.1 hpn).2.2 x hx x (List.mem_cons_of_mem _ hm) rfl
  exact (upd_other _ a x none hxa).trans (zeroOn_not_mem hxs)

theorem pool_snoc {q : Q} {vs chain pool} {f : Addr} (h : Rep0 q vs chain pool) (hf : f ∉ chain ++ pool)
    (hlt : f < q.fresh) (hg : f ∉ q.gc) {next' : Addr → Option Addr} {poolFirst' : Option Addr}
    (hnext : Seg next' q.first chain) (hpool : Seg next' poolFirst' (pool ++ [f]))
    (hz : ∀ a ∈ q.gc, next' a = q.next a) :
    Rep0 { q with next := next', poolFirst := poolFirst' } vs chain (pool ++ [f]) := by
  have o := (h.owns.cons hf hlt hg).perm
    (by simpa using (List.perm_append_singleton f (chain ++ pool)))
  exact { o, h with hnext, hpool, gzero := fun a ha => by simp only [hz a ha]; exact h.gzero a ha }

/-- the `for n > 0` loop of KeepNodePoolCount -/
theorem keepLoop_spec (k : Nat) {q : Q} {vs chain pre a suf} (h : Rep0 q vs chain (pre ++ a :: suf)) (q' : Q) (a' : Addr)
    (hk : keepLoop k q a = (q', a')) :
    ∃ pre' suf', Rep0 q' vs chain (pre' ++ a' :: suf') ∧ Same q q' ∧ pre'.length = pre.length + k := by
  induction k generalizing q pre a suf with
  | zero =>
    obtain ⟨rfl, rfl⟩ := Prod.mk.inj hk
    exact ⟨pre, suf, h, Same.refl _, rfl⟩
  | succ k ih =>
    have hd : Seg q.next (q.next a) suf := h.hpool.drop
    -- either way the loop continues one node further down a free list of the same shape
    suffices ∃ q1 x suf1, keepLoop (k + 1) q a = keepLoop k q1 x ∧
        Rep0 q1 vs chain ((pre ++ [a]) ++ x :: suf1) ∧ Same q q1 by
      obtain ⟨q1, x, suf1, he, h1, hs1⟩ := this
      obtain ⟨pre', suf', hr, hs, hl⟩ := ih h1 (he ▸ hk)
      exact ⟨pre', suf', hr, hs1.trans hs, by simp at hl; omega⟩
    cases hnx : q.next a with
    | some x =>
      obtain ⟨suf2, rfl⟩ := List.head?_eq_some_iff.1 (hnx ▸ hd).head.symm
      exact ⟨q, x, suf2, by simp only [keepLoop, hnx], by simpa using h, Same.refl _⟩
    | none =>
      obtain rfl : suf = [] := (hnx ▸ hd).nil_of_none
      cases hg : poolGet q with
      | mk q1 f =>
      obtain ⟨h1, hs1, hfn, hfg, hflt, hfn1, -⟩ := poolGet_spec h q1 f hg
      have hag : a ∉ q1.gc := fun hm => h1.gdisj a hm (by simp)
      refine ⟨{ q1 with next := upd q1.next a (some f) }, f, [], by simp only [keepLoop, hnx, hg], ?_,
        hs1.trans ⟨rfl, rfl, rfl, rfl, rfl⟩⟩
      exact pool_snoc h1 hfn hflt hfg (h1.hnext.frame _ _ fun hm => h.disj hm (by simp))
        (h1.hpool.snoc f a (fun hm => hfn (List.mem_append_right _ hm)) hfn1 h1.pool_nodup (by simp))
        fun x hx => upd_of_gc hx hag _ _

/- `[] ++ … :: suf` is the shape `pre ++ a :: suf` in which `keepLoop_spec` takes the free list -/
theorem keepStart_spec {q : Q} {vs chain pool} (h : Rep0 q vs chain pool) :
    ∃ suf, Rep0 (keepStart q).1 vs chain ([] ++ (keepStart q).2 :: suf) ∧ (keepStart q).1.nodeCount = q.nodeCount := by
  cases hp : q.poolFirst with
  | some l =>
    obtain ⟨suf, rfl⟩ := List.head?_eq_some_iff.1 (hp ▸ h.hpool).head.symm
    exact ⟨suf, by simp only [keepStart, hp]; exact h, by simp only [keepStart, hp]⟩
  | none =>
    obtain rfl : pool = [] := (hp ▸ h.hpool).nil_of_none
    cases hg : poolGet q with
    | mk q1 f =>
    obtain ⟨h1, hs1, hfn, hfg, hflt, hfn1, -⟩ := poolGet_spec h q1 f hg
    refine ⟨[], ?_, ?_⟩ <;> simp only [keepStart, hp, hg]
    · exact pool_snoc h1 hfn hflt hfg h1.hnext (.cons f [] (hfn1 ▸ .nil)) fun _ _ => rfl
    · exact hs1.nodeCount

theorem keep_pos_rep {q : Q} {vs chain pool} (h : Rep0 q vs chain pool) (n : Int) (hn : 0 < n) :
    ∃ q' pool', keepNodePoolCount q n = some q' ∧ Rep q' vs chain pool' ∧ pool'.length = n.toNat := by
  have h0 : Rep0 { q with nodeCount := n } vs chain pool := { h with }
  obtain ⟨suf, hr1, hnc1⟩ := keepStart_spec h0
  cases hk : keepLoop (n - 1).toNat (keepStart { q with nodeCount := n }).1 (keepStart { q with nodeCount := n }).2 with
  | mk q2 a2 =>
  obtain ⟨pre', suf', hr2, hs2, hl2⟩ := keepLoop_spec _ hr1 q2 a2 hk
  obtain ⟨q3, hput, hr3, hnc3⟩ := put_cut hr2
  refine ⟨{ q3 with next := upd q3.next a2 none }, pre' ++ [a2], ?_, ⟨hr3, ?_⟩, ?_⟩
  · simp only [keepNodePoolCount, Int.not_le.2 hn, if_false, hk, hput, Option.map_some]
  · show q3.nodeCount = _
    rw [hnc3, hs2.nodeCount, hnc1]; simp at hl2 ⊢; omega
  · simp at hl2 ⊢; omega

/-- a non-positive n empties the free list -/
theorem keep_rep {q : Q} {vs chain pool} (h : Rep0 q vs chain pool) (n : Int) :
    ∃ q' pool', keepNodePoolCount q n = some q' ∧ Rep q' vs chain pool' ∧ pool'.length = n.toNat := by
  by_cases hn : n ≤ 0
  · obtain ⟨q', hc, hr'⟩ := clearNodePool_rep h
    exact ⟨q', [], by simp [keepNodePoolCount, hn, hc], hr', by simp; omega⟩
  · exact keep_pos_rep h n (by omega)

end FpgoVerif.C06
