import FpgoVerif.Model.C13Ask
/-! Invariant of the Ask/Reply transition system (repaired code, `legacy = false`). -/
namespace FpgoVerif.C13

def actorHolds (a : APc) (i : Nat) : Nat :=
  match a with
  | .idle => 0
  | .computing k => if k = i then 1 else 0
  | .replying k _ => if k = i then 1 else 0

/-- how many tokens of request `i` are in the system: in the mailbox, with the actor, in the reply buffer -/
def holds (s : St) (i : Nat) : Nat := s.mbox.count i + actorHolds s.actor i + (s.asker i).buf.length

/-- `h`: tokens of the request in the system (`holds`) -/
def PhaseOf (pc : Pc) (h : Nat) (chC dnC : Bool) (kind : Kind) (ans : Nat) : Prop :=
  match pc with
  | .idle => h = 0 ∧ chC = false ∧ dnC = false
  | .sending => h = 0 ∧ chC = false ∧ dnC = false
  | .waiting => h = 1 ∧ chC = false ∧ dnC = false
  | .fired => h = 1 ∧ chC = false ∧ dnC = false ∧ kind = .timeout
  | .got v => h = 0 ∧ chC = false ∧ dnC = false ∧ v = ans
  | .retV v => h = 0 ∧ dnC = false ∧ v = ans
  | .retT => h ≤ 1 ∧ chC = false ∧ dnC = true ∧ kind = .timeout
  | .holding => h = 1 ∧ chC = false ∧ dnC = false

theorem phaseOf_afterSend (k : Kind) (h : Nat) (c d : Bool) (k' : Kind) (a : Nat) :
    PhaseOf (afterSend k) h c d k' a ↔ (h = 1 ∧ c = false ∧ d = false) := by
  cases k <;> exact Iff.rfl

structure Phase (c : Cfg) (spec : Nat → Kind × Nat × Nat) (s : St) (i : Nat) : Prop where
  req : (s.asker i).payload = (spec i).2.1 ∧ (s.asker i).kind = (spec i).1
  ph : PhaseOf (s.asker i).pc (holds s i) (s.asker i).chClosed (s.asker i).doneClosed (spec i).1 (c.reply i (spec i).2.1)
  buf : ∀ v ∈ (s.asker i).buf, v = c.reply i (spec i).2.1
  act : ∀ v, s.actor = .replying i v → v = c.reply i (spec i).2.1

structure Inv (c : Cfg) (spec : Nat → Kind × Nat × Nat) (s : St) : Prop where
  np : s.panicked = false
  ok : ∀ i, Phase c spec s i

theorem inv_init (c : Cfg) (spec) : Inv c spec (St.init spec) :=
  ⟨rfl, fun _ => ⟨⟨rfl, rfl⟩, show 0 = 0 ∧ false = false ∧ false = false from ⟨rfl, rfl, rfl⟩, fun _ h => (nomatch h),
    fun _ h => (nomatch h)⟩⟩

theorem count_snoc (l : List Nat) (i k : Nat) : (l ++ [i]).count k = l.count k + (if i = k then 1 else 0) := by
  rw [List.count_append]; simp [List.count_cons]

theorem count_cons' (l : List Nat) (i k : Nat) : (i :: l).count k = l.count k + (if i = k then 1 else 0) := by
  simp [List.count_cons]

theorem holds_congr {s t : St} {k : Nat} (hb : (t.asker k).buf = (s.asker k).buf)
    (hm : t.mbox.count k + actorHolds t.actor k = s.mbox.count k + actorHolds s.actor k) : holds t k = holds s k := by
  unfold holds; rw [hb, hm]

theorem Phase.frame {c : Cfg} {spec} {s t : St} {k : Nat} (ok : Phase c spec s k) (ha : t.asker k = s.asker k)
    (hm : t.mbox.count k + actorHolds t.actor k = s.mbox.count k + actorHolds s.actor k)
    (hact : ∀ v, t.actor = .replying k v → s.actor = .replying k v) : Phase c spec t k :=
  ⟨ha ▸ ok.req, by rw [ha, holds_congr (congrArg Asker.buf ha) hm]; exact ok.ph, by rw [ha]; exact ok.buf,
    fun v hv => ok.act v (hact v hv)⟩

/-- The shape of most cases of `step_inv`: the step concerns one asker `i`, the others are framed. -/
theorem Inv.step_of {c : Cfg} {spec} {s t : St} (hi : Inv c spec s) (i : Nat) (np : t.panicked = false)
    (other : ∀ k, k ≠ i → t.asker k = s.asker k ∧
      t.mbox.count k + actorHolds t.actor k = s.mbox.count k + actorHolds s.actor k ∧
      ∀ v, t.actor = .replying k v → s.actor = .replying k v)
    (self : Phase c spec t i) : Inv c spec t := by
  refine ⟨np, fun k => ?_⟩
  by_cases e : k = i
  · subst e; exact self
  · exact (hi.ok k).frame (other k e).1 (other k e).2.1 (other k e).2.2

theorem holds_flags (s : St) (i k : Nat) (pc : Pc) (x y : Bool) :
    holds { s with asker := upd s.asker i { s.asker i with pc := pc, chClosed := x, doneClosed := y } } k = holds s k := by
  refine holds_congr ?_ rfl
  by_cases e : k = i
  · subst e; simp only [upd_same]
  · simp only [upd_other _ _ _ _ e]

theorem Phase.of_asker {c : Cfg} {spec} {s t : St} {i : Nat} {a' : Asker} (ok : Phase c spec s i) (ha : t.asker i = a')
    (hreq : a'.payload = (s.asker i).payload ∧ a'.kind = (s.asker i).kind)
    (hp : PhaseOf a'.pc (holds t i) a'.chClosed a'.doneClosed (spec i).1 (c.reply i (spec i).2.1))
    (hb : ∀ v ∈ a'.buf, v = c.reply i (spec i).2.1)
    (hact : ∀ v, t.actor = .replying i v → v = c.reply i (spec i).2.1) : Phase c spec t i := by
  subst ha
  exact ⟨⟨hreq.1.trans ok.req.1, hreq.2.trans ok.req.2⟩, hp, hb, hact⟩

theorem Inv.setFlags {c : Cfg} {spec} {s : St} (hi : Inv c spec s) (i : Nat) (pc : Pc) (x y : Bool)
    (hp : PhaseOf pc (holds s i) x y (spec i).1 (c.reply i (spec i).2.1)) :
    Inv c spec { s with asker := upd s.asker i { s.asker i with pc := pc, chClosed := x, doneClosed := y } } :=
  hi.step_of i hi.np (fun k e => ⟨upd_other _ _ _ _ e, rfl, fun _ hv => hv⟩)
    ((hi.ok i).of_asker (upd_same _ _ _) ⟨rfl, rfl⟩ (by rw [holds_flags]; exact hp) (hi.ok i).buf (hi.ok i).act)

theorem step_inv {c : Cfg} {spec} {s t : St} (hl : c.legacy = false) (a : Act)
    (hi : Inv c spec s) (h : step c s a = some t) : Inv c spec t := by
  cases a with
  | call i | read i =>
    simp only [step] at h
    split at h
    · next hpc =>
      cases h
      have hp := hpc ▸ (hi.ok i).ph
      exact hi.setFlags i _ _ _ hp
    · cases h
  | send i =>
    simp only [step] at h
    split at h
    · next hpc =>
      have hp := hpc ▸ (hi.ok i).ph
      have h0 : holds s i = 0 := hp.1
      split at h
      · cases h
        refine hi.step_of i hi.np (fun k e => ⟨upd_other _ _ _ _ e, ?_, fun _ hv => hv⟩)
          ((hi.ok i).of_asker (upd_same _ _ _) ⟨rfl, rfl⟩ ((phaseOf_afterSend ..).2 ⟨?_, hp.2⟩) (hi.ok i).buf (hi.ok i).act)
        · simp only [St.setPc, count_snoc, if_neg (Ne.symm e), Nat.add_zero]
        · simp only [holds, St.setPc, upd_same, count_snoc, if_pos] at h0 ⊢
          omega
      · split at h
        · next hd =>
          cases h
          refine hi.step_of i hi.np (fun k e => ⟨upd_other _ _ _ _ e, ?_, fun _ hv => nomatch hv⟩)
            ((hi.ok i).of_asker (upd_same _ _ _) ⟨rfl, rfl⟩ ((phaseOf_afterSend ..).2 ⟨?_, hp.2⟩) (hi.ok i).buf
              (fun _ hv => nomatch hv))
          · simp only [St.setPc, hd.2.2, actorHolds, if_neg (Ne.symm e)]
          · simp only [holds, St.setPc, upd_same, hd.2.2, actorHolds, if_pos] at h0 ⊢
            omega
        · cases h
    · cases h
  | take =>
    simp only [step] at h
    split at h
    · next i rest hact hmb =>
      cases h
      refine ⟨hi.np, fun k => (hi.ok k).frame rfl ?_ (fun _ hv => nomatch hv)⟩
      simp only [hact, hmb, actorHolds, count_cons']
      omega
    · cases h
  | compute =>
    simp only [step] at h
    split at h
    · next i hact =>
      cases h
      refine ⟨hi.np, fun k => ?_⟩
      have ok := hi.ok k
      refine ⟨ok.req, ?_, ok.buf, ?_⟩
      · have hp := ok.ph
        simp only [holds, hact, actorHolds] at hp ⊢
        exact hp
      · intro v hv; cases hv; rw [ok.req.1]
    · cases h
  | replySend =>
    simp only [step] at h
    split at h
    · next i v hact =>
      have ok := hi.ok i
      have hp := ok.ph
      have hh : holds s i = s.mbox.count i + 1 + (s.asker i).buf.length := by
        simp only [holds, hact, actorHolds, if_pos]
      have other : ∀ k, k ≠ i → s.mbox.count k + actorHolds .idle k = s.mbox.count k + actorHolds s.actor k :=
        fun k e => by simp only [hact, actorHolds, if_neg (Ne.symm e)]
      split at h
      · -- `ch` is closed only at `retV`, where no token is left
        next hcl =>
        exfalso
        cases hpc : (s.asker i).pc <;> rw [hpc, hcl] at hp <;>
          simp only [PhaseOf, Bool.true_eq_false, and_false, false_and] at hp
        case retV => omega
      · split at h
        · next hroom =>
          cases h
          refine hi.step_of i hi.np (fun k e => ⟨upd_other _ _ _ _ e, other k e, fun _ hw => nomatch hw⟩)
            (ok.of_asker (upd_same _ _ _) ⟨rfl, rfl⟩ ?_ ?_ (fun _ hw => nomatch hw))
          · -- the token moves from the actor's hand into the buffer
            have : holds { s with asker := upd s.asker i { s.asker i with buf := (s.asker i).buf ++ [v] },
                                  actor := APc.idle, served := s.served ++ [i] } i = holds s i := by
              rw [hh]
              simp only [holds, upd_same, actorHolds, List.length_append, List.length_cons, List.length_nil]
              omega
            rw [this]; exact hp
          · simp only [List.mem_append, List.mem_singleton]
            rintro w (hw | rfl)
            · exact ok.buf w hw
            · exact ok.act w hact
        · split at h
          · next hd =>
            cases h
            rw [hd.2.1] at hp
            have h1 : holds s i = 1 := hp.1
            refine hi.step_of i hi.np (fun k e => ⟨upd_other _ _ _ _ e, other k e, fun _ hw => nomatch hw⟩)
              (ok.of_asker (upd_same _ _ _) ⟨rfl, rfl⟩ ?_ ok.buf (fun _ hw => nomatch hw))
            simp only [PhaseOf]
            refine ⟨?_, hp.2.1, hp.2.2, ok.act v hact⟩
            simp only [holds, upd_same, actorHolds]
            omega
          · cases h
    · cases h
  | replyDone =>
    simp only [step] at h
    split at h
    · next i v hact =>
      split at h
      · next hd =>
        cases h
        have ok := hi.ok i
        have hp := ok.ph
        refine hi.step_of i hi.np (fun k e => ⟨rfl, ?_, fun _ hw => nomatch hw⟩)
          ⟨ok.req, ?_, ok.buf, fun _ hw => nomatch hw⟩
        · simp only [hact, actorHolds, if_neg (Ne.symm e)]
        · -- `done` is closed only at `retT`, which allows the token to go
          have hnew : holds { s with actor := APc.idle, served := s.served ++ [i] } i + 1 = holds s i := by
            simp only [holds, hact, actorHolds, if_pos]; omega
          show PhaseOf (s.asker i).pc _ (s.asker i).chClosed (s.asker i).doneClosed _ _
          cases hpc : (s.asker i).pc <;> rw [hpc, hd.1] at hp <;>
            simp only [PhaseOf, Bool.true_eq_false, and_false, false_and] at hp
          case retT => exact ⟨by omega, hp.2.1, hd.1, hp.2.2.2⟩
      · cases h
    · cases h
  | recv i =>
    simp only [step] at h
    split at h
    · next hpc =>
      split at h
      · next v rest hb =>
        cases h
        have ok := hi.ok i
        have hp := hpc ▸ ok.ph
        have h1 : holds s i = 1 := hp.1
        refine hi.step_of i hi.np (fun k e => ⟨upd_other _ _ _ _ e, rfl, fun _ hw => hw⟩)
          (ok.of_asker (upd_same _ _ _) ⟨rfl, rfl⟩ ?_ ?_ ok.act)
        · simp only [PhaseOf]
          refine ⟨?_, hp.2.1, hp.2.2, ok.buf v (by rw [hb]; exact List.mem_cons_self)⟩
          simp only [holds, upd_same, hb, List.length_cons] at h1 ⊢
          omega
        · exact fun w hw => ok.buf w (by rw [hb]; exact List.mem_cons_of_mem _ hw)
      · cases h
    · cases h
  | fire i =>
    simp only [step] at h
    split at h
    · next hd =>
      cases h
      have hp := hd.1 ▸ (hi.ok i).ph
      exact hi.setFlags i .fired _ _ ⟨hp.1, hp.2.1, hp.2.2, (hi.ok i).req.2 ▸ hd.2⟩
    · cases h
  | giveUp i =>
    simp only [step, hl] at h
    split at h
    · next hpc =>
      cases h
      have hp := hpc ▸ (hi.ok i).ph
      exact hi.setFlags i .retT _ true ⟨Nat.le_of_eq hp.1, hp.2.1, rfl, hp.2.2.2⟩
    · cases h
  | finish i =>
    simp only [step] at h
    split at h
    · next v hpc =>
      have hp := hpc ▸ (hi.ok i).ph
      split at h
      · cases h
        exact hi.setFlags i (.retV v) _ _ ⟨hp.1, hp.2.2.1, hp.2.2.2⟩
      · split at h
        · next hcl => rw [hp.2.1] at hcl; cases hcl
        · cases h
          exact hi.setFlags i (.retV v) true _ ⟨hp.1, hp.2.2.1, hp.2.2.2⟩
    · cases h

theorem reach_inv {c : Cfg} {spec s} (hl : c.legacy = false) (h : Reach c spec s) : Inv c spec s := by
  induction h with
  | init => exact inv_init c spec
  | step a _ hs ih => exact step_inv hl a ih hs

theorem reach_run {c spec} : ∀ (acts : List Act) {s t}, Reach c spec s → runActs c s acts = some t → Reach c spec t
  | [], s, t, hr, h => by simp only [runActs] at h; cases h; exact hr
  | a :: as, s, t, hr, h => by
    simp only [runActs] at h
    split at h
    · next u hu => exact reach_run as (Reach.step a hr hu) h
    · cases h

theorem reach_of_run {c spec} (acts : List Act) {t} (h : runActs c (St.init spec) acts = some t) : Reach c spec t :=
  reach_run acts Reach.init h

/-- the actor inside `Reply` can always get out: by delivering, by buffering, by seeing `done`, or — when the
    asker's timer has fired but `done` is not closed yet, or an AskChannel caller holds the channel without reading
    yet — after the asker's own next atom -/
theorem Inv.reply_progress {c : Cfg} {spec} {s : St} (hl : c.legacy = false) (hi : Inv c spec s) {i v : Nat}
    (ha : s.actor = .replying i v) :
    ((step c s .replySend).isSome = true ∧ (s.asker i).chClosed = false) ∨ (step c s .replyDone).isSome = true ∨
      ((s.asker i).pc = .fired ∧ (step c s (.giveUp i)).isSome = true) ∨
      ((s.asker i).pc = .holding ∧ (step c s (.read i)).isSome = true) := by
  have hp := (hi.ok i).ph
  have hh : s.mbox.count i + 1 + (s.asker i).buf.length = holds s i := by
    simp only [holds, ha, actorHolds, if_true]
  -- the actor holds a token of `i`
  cases hpc : (s.asker i).pc <;> rw [hpc] at hp <;> simp only [PhaseOf] at hp
  case idle | sending | got | retV => omega
  case waiting =>
    -- nothing buffered, so either there is room or the asker is in its receive
    have hb : (s.asker i).buf = [] := List.length_eq_zero_iff.mp (by omega)
    left
    refine ⟨?_, hp.2.1⟩
    by_cases hr : (s.asker i).rcap = 0
    · simp [step, ha, hp.2.1, hb, hr, hpc]
    · have : 0 < (s.asker i).rcap := Nat.pos_of_ne_zero hr
      simp [step, ha, hp.2.1, hb, this]
  case fired => exact Or.inr (Or.inr (Or.inl ⟨rfl, by simp [step, hpc, hl]⟩))
  case retT => exact Or.inr (Or.inl (by simp [step, ha, hp.2.2.1, hl]))
  case holding => exact Or.inr (Or.inr (Or.inr ⟨rfl, by simp [step, hpc]⟩))

end FpgoVerif.C13
