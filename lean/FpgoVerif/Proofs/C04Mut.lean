import FpgoVerif.Proofs.C04Sets
/-! C04 — the documented in-place mutators (`Set`, interface{} `Remove`) and the interceptor bookkeeping of
    network/simpleHTTP.go: what they write, and that the world stays well-formed. -/
namespace FpgoVerif.C04
open World

variable {w w' : World} {p : Nat}

theorem setSet_wf (hw : Wf w) {k : Int} {v : Val} (hv : valOk w v)
    (h : w.setSet p k v = some w') :
    Wf w' ∧ Grow w w' ∧ w'.arrs = w.arrs ∧ w'.strs = w.strs ∧ w'.sets = w.sets := by
  unfold setSet at h
  split at h
  · cases h
  · cases h
    exact ⟨writeMap_wf hw _ (mapOk_insert (mapAt_ok hw _) k hv),
      ⟨Nat.le_refl _, Nat.le_refl _, Nat.le_refl _, fun _ _ => Nat.le_refl _⟩, rfl, rfl, rfl⟩

/-- list core of the in-place `append(s[:i], s[i+1:]...)` -/
theorem shift_list (old : List Int) (off len i : Nat) (hi : i < len) (hb : off + len ≤ old.length) :
    let content := (old.drop off).take len
    let tail := content.drop (i + 1)
    (((old.take (off + i) ++ tail ++ old.drop (off + i + tail.length)).drop off).take (i + tail.length))
      = content.eraseIdx i := by
  intro content tail
  have hcl : content.length = len := by simp [content, List.length_take, List.length_drop]; omega
  have htl : tail.length = len - (i + 1) := by simp [tail, hcl]
  have hA : (old.take (off + i)).length = off + i := by simp [List.length_take]; omega
  have h1 : (old.take (off + i) ++ tail ++ old.drop (off + i + tail.length)).drop off
      = (old.take (off + i)).drop off ++ tail ++ old.drop (off + i + tail.length) := by
    rw [List.append_assoc, List.drop_append_of_le_length (by omega), List.append_assoc]
  have h2 : (old.take (off + i)).drop off = content.take i := by
    simp only [content]
    rw [List.drop_take, List.take_take]
    congr 1
    omega
  have hAl : (content.take i).length = i := by simp [List.length_take, hcl]; omega
  rw [h1, h2, List.append_assoc, List.eraseIdx_eq_take_drop_succ]
  rw [List.take_append, hAl, List.take_of_length_le (by omega : (content.take i).length ≤ i + tail.length),
    Nat.add_sub_cancel_left, List.take_append_of_le_length (Nat.le_refl _), List.take_length]

theorem strRemoveI_snd (w : World) (p : Nat) (i : Int) : (w.strRemoveI p i).2 = p := by
  simp only [strRemoveI]; split <;> rfl

/-- for a header within its array an in-range `Remove(i)` always fits the capacity, so `append` writes in place -/
theorem strRemoveI_eq {i : Int} (hs : sliceOk w (w.strHdr p))
    (hi : 0 ≤ i ∧ i < (w.strHdr p).len) :
    w.strRemoveI p i = ((w.writeArr (w.strHdr p).arr ((w.strHdr p).off + i.toNat)
        ((w.sliceContent (w.strHdr p)).drop (i.toNat + 1))).setStrHdr p ⟨(w.strHdr p).arr, (w.strHdr p).off, (w.strHdr p).len - 1, (w.strHdr p).cap⟩, p) := by
  have htl : ((w.sliceContent (w.strHdr p)).drop (i.toNat + 1)).length = (w.strHdr p).len - (i.toNat + 1) := by
    rw [List.length_drop, sliceContent_length hs]
  have hfit : i.toNat + ((w.sliceContent (w.strHdr p)).drop (i.toNat + 1)).length ≤ (w.strHdr p).cap := by
    rw [htl]; have := hs.2.2; omega
  simp only [strRemoveI, if_pos hi, appendSlice, if_pos hfit]
  congr 3
  omega

theorem strRemoveI_wf (hw : Wf w) (p : Nat) (i : Int) :
    Wf (w.strRemoveI p i).1 ∧ Grow w (w.strRemoveI p i).1 ∧ (w.strRemoveI p i).1.sets = w.sets := by
  by_cases hi : 0 ≤ i ∧ i < (w.strHdr p).len
  · have hs := strHdr_ok hw p
    have g := writeArr_grow w (w.strHdr p).arr ((w.strHdr p).off + i.toNat) ((w.sliceContent (w.strHdr p)).drop (i.toNat + 1))
    rw [strRemoveI_eq hs hi]
    exact ⟨setStrHdr_wf (writeArr_wf hw _ _ _) p (sliceOk_grow g ⟨hs.1, hs.2.1, Nat.le_trans (Nat.sub_le _ 1) hs.2.2⟩),
      ⟨g.arrs, Nat.le_of_eq List.length_set.symm, g.sets, g.arrLen⟩, rfl⟩
  · simp only [strRemoveI, if_neg hi]
    exact ⟨hw, (Le.refl w).grow, trivial⟩

/-! ### network/simpleHTTP.go: each bookkeeping method overwrites the instance's own cell with the header of a
    persistent Stream result; no existing array, no other cell is written -/

structure HFrame (w w' : World) (p : Nat) : Prop where
  arrs : w.arrs <+: w'.arrs
  maps : w.maps <+: w'.maps
  sets : w.sets <+: w'.sets
  strsLen : w.strs.length ≤ w'.strs.length
  strs : ∀ q, q < w.strs.length → q ≠ p → w'.strHdr q = w.strHdr q
  wf : Wf w'

theorem HFrame.grow (f : HFrame w w' p) : Grow w w' :=
  Grow.of_prefix f.arrs f.strsLen f.sets.length_le

theorem HFrame.refl (hw : Wf w) (p : Nat) : HFrame w w p :=
  ⟨List.prefix_refl _, List.prefix_refl _, List.prefix_refl _, Nat.le_refl _, fun _ _ _ => rfl, hw⟩

theorem HFrame.trans {a b c : World} (h₁ : HFrame a b p) (h₂ : HFrame b c p) : HFrame a c p :=
  ⟨h₁.arrs.trans h₂.arrs, h₁.maps.trans h₂.maps, h₁.sets.trans h₂.sets, Nat.le_trans h₁.strsLen h₂.strsLen,
   fun q hq hne => by rw [h₂.strs q (Nat.lt_of_lt_of_le hq h₁.strsLen) hne, h₁.strs q hq hne], h₂.wf⟩

theorem HFrame.setStrHdr (g : Good w w') (p : Nat) {s : Slice} (hs : sliceOk w' s) :
    HFrame w (w'.setStrHdr p s) p :=
  ⟨g.le.arrs, g.le.maps, g.le.sets, Nat.le_trans g.le.strs.length_le (Nat.le_of_eq List.length_set.symm),
    fun _ hq hne => (strHdr_setStrHdr_ne w' (Ne.symm hne) s).trans (strHdr_le g.le hq), setStrHdr_wf g.wf p hs⟩

theorem HFrame.afterStr {r : World × Nat} (h : StrRes w r) (p : Nat) :
    HFrame w (r.1.setStrHdr p (r.1.strHdr r.2)) p :=
  .setStrHdr h.1 p (strHdr_ok h.1.wf r.2)

theorem httpAdd_frame (ids : List Int) : ∀ {w : World}, Wf w → ∀ {p : Nat}, p < w.strs.length →
    HFrame w (w.httpAdd p ids) p := by
  induction ids with
  | nil => intro w hw p _; exact HFrame.refl hw p
  | cons i t ih =>
    intro w hw p hp
    have h₁ := HFrame.afterStr (strAppend_res hw hp [i]) p
    exact h₁.trans (ih h₁.wf (Nat.lt_of_lt_of_le hp h₁.strsLen))

theorem httpRemove_frame (ids : List Int) : ∀ {w : World}, Wf w → ∀ {p : Nat}, p < w.strs.length →
    HFrame w (w.httpRemove p ids) p := by
  induction ids with
  | nil => intro w hw p _; exact HFrame.refl hw p
  | cons i t ih =>
    intro w hw p hp
    have h₁ := HFrame.afterStr (strRemoveItem_res hw hp [i]) p
    exact h₁.trans (ih h₁.wf (Nat.lt_of_lt_of_le hp h₁.strsLen))

theorem httpClear_frame (hw : Wf w) (p : Nat) : HFrame w (w.httpClear p) p :=
  HFrame.setStrHdr (Good.refl hw) p (sliceOk_nil hw.arr0)

end FpgoVerif.C04
