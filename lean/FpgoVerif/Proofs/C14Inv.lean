import FpgoVerif.Model.C14
/-! The coroutine system of C14: `step` inverted once, then the routing / conservation invariant, the count of
    items on the way per caller with the progress it gives, and the driver's round-robin run as a path. -/
namespace FpgoVerif.C14

/-- `step` as a relation: one constructor per `some` leaf of `step` -/
inductive Step (gen : List (Option Nat × Nat) → Nat) (cap : Nat) (s : St) : Act → St → Prop
  | send {i x rest} : s.pending i = x :: rest → s.waiting i = false ∧ s.opCh.length < cap →
      Step gen cap s (.send i) { s with pending := updL s.pending i rest, waiting := updB s.waiting i true,
                                        opCh := s.opCh ++ [(some i, x)] }
  | take {c x rest} : s.inflight = none → s.opCh = (c, x) :: rest →
      Step gen cap s .take { s with inflight := some (c, x, gen (seenOf s.served)), opCh := rest,
                                    served := s.served ++ [(c, x, gen (seenOf s.served))] }
  | answer {i x y} : s.inflight = some (some i, x, y) →
      Step gen cap s .answer { s with inflight := none, resCh := updL s.resCh i (s.resCh i ++ [y]) }
  | drop {x y} : s.inflight = some (none, x, y) → Step gen cap s .answer { s with inflight := none }
  | recv {i y rest} : s.resCh i = y :: rest → s.waiting i = true →
      Step gen cap s (.recv i) { s with resCh := updL s.resCh i rest, got := updL s.got i (s.got i ++ [y]),
                                        waiting := updB s.waiting i false }

theorem step_cases {gen cap s s'} {a : Act} (h : step gen cap s a = some s') : Step gen cap s a s' := by
  unfold step at h
  repeat' split at h
  all_goals first
    | simp at h; done
    | (injection h with h; subst h; constructor <;> assumption)

theorem chOf_append (i : Nat) (a b : List (Option Nat × Nat)) : chOf i (a ++ b) = chOf i a ++ chOf i b := by
  simp [chOf, List.filter_append]
theorem xsOf_append (i : Nat) (a b : List (Option Nat × Nat × Nat)) : xsOf i (a ++ b) = xsOf i a ++ xsOf i b := by
  simp [xsOf, List.filter_append]
theorem ysOf_append (i : Nat) (a b : List (Option Nat × Nat × Nat)) : ysOf i (a ++ b) = ysOf i a ++ ysOf i b := by
  simp [ysOf, List.filter_append]

theorem chOf_cons (k : Nat) (c : Option Nat) (x : Nat) (rest : List (Option Nat × Nat)) :
    chOf k ((c, x) :: rest) = (if c = some k then [x] else []) ++ chOf k rest := by
  by_cases hc : c = some k <;> simp [chOf, hc]
theorem chOf_single (k : Nat) (c : Option Nat) (x : Nat) : chOf k [(c, x)] = if c = some k then [x] else [] := by
  rw [chOf_cons]; simp [chOf]
theorem xsOf_single (k : Nat) (c : Option Nat) (x y : Nat) : xsOf k [(c, x, y)] = if c = some k then [x] else [] := by
  by_cases hc : c = some k <;> simp [xsOf, hc]
theorem ysOf_single (k : Nat) (c : Option Nat) (x y : Nat) : ysOf k [(c, x, y)] = if c = some k then [y] else [] := by
  by_cases hc : c = some k <;> simp [ysOf, hc]
theorem inflY_some (k : Nat) (c : Option Nat) (x y : Nat) : inflY k (some (c, x, y)) = if c = some k then [y] else [] := by
  cases c <;> simp [inflY, eq_comm]

theorem length_ite_single (p : Prop) [Decidable p] (a : Nat) : (if p then [a] else []).length = if p then 1 else 0 := by
  split <;> rfl

structure Inv (script : Nat → List Nat) (s : St) : Prop where
  /-- requests of caller i: taken by the target ++ queued in opCh ++ not yet sent = its script, in order -/
  reqs : ∀ i, xsOf i s.served ++ chOf i s.opCh ++ s.pending i = script i
  /-- answers of caller i: received ++ in its resultCh ++ being answered = the y's yielded for ITS requests, in order -/
  ans : ∀ i, s.got i ++ s.resCh i ++ inflY i s.inflight = ysOf i s.served

theorem inv_init (script : Nat → List Nat) (sv : Option Nat) : Inv script (init script sv) :=
  ⟨fun i => by cases sv <;> simp [init, xsOf, chOf], fun i => by simp [init, ysOf, inflY]⟩

theorem inv_step {gen cap script s s'} (a : Act) (h : step gen cap s a = some s') (hi : Inv script s) : Inv script s' := by
  refine ⟨fun k => ?_, fun k => ?_⟩
  · have hk := hi.reqs k
    cases step_cases h
    case send i x rest hp _ =>
      simp only [chOf_append, chOf_single, updL]
      by_cases hki : k = i
      · subst hki; rw [hp] at hk; simpa using hk
      · simpa [hki, @eq_comm _ i k] using hk
    case take c x rest _ hop =>
      rw [hop, chOf_cons] at hk
      simpa only [xsOf_append, xsOf_single, List.append_assoc] using hk
    case answer | drop | recv => exact hk
  · have hk := hi.ans k
    cases step_cases h
    case take c x rest hinf _ =>
      rw [hinf] at hk
      simp only [inflY, List.append_nil] at hk
      simp only [ysOf_append, ysOf_single, inflY_some, ← hk]
    case answer i x y hinf =>
      rw [hinf, inflY_some] at hk
      simp only [updL, inflY, ← hk]
      by_cases hki : k = i
      · subst hki; simp
      · simp [hki, @eq_comm _ i k]
    case drop x y hinf => rw [hinf] at hk; simpa [inflY] using hk
    case recv i y rest hr _ =>
      simp only [updL]
      by_cases hki : k = i
      · subst hki; rw [hr] at hk; simpa using hk
      · simpa [hki] using hk
    case send => exact hk

theorem inv_reach {gen cap script sv s} (h : Reach gen cap script sv s) : Inv script s := by
  induction h with
  | init => exact inv_init script sv
  | step a _ hs ih => exact inv_step a hs ih

/-! A caller is `waiting` iff exactly one of its requests/answers is on the way (queued in opCh, taken
    and not yet answered, or in its resultCh); hence, while any caller still has a request to make or an answer
    to get, some atom is enabled (nothing is lost by a stuck system) -/

def outst (s : St) (i : Nat) : Nat := (chOf i s.opCh).length + (inflY i s.inflight).length + (s.resCh i).length

def Inv2 (s : St) : Prop := ∀ i, outst s i = if s.waiting i = true then 1 else 0

theorem inv2_init (script : Nat → List Nat) (sv : Option Nat) : Inv2 (init script sv) := by
  intro i
  cases sv <;> simp [init, outst, chOf, inflY]

theorem inv2_step {gen cap s s'} (a : Act) (h : step gen cap s a = some s') (hi : Inv2 s) : Inv2 s' := by
  intro k
  have hk := hi k
  unfold outst at hk ⊢
  cases step_cases h
  case send i x rest _ hg =>
    simp only [chOf_append, chOf_single, List.length_append, length_ite_single, updB]
    by_cases hki : k = i
    · subst hki; rw [hg.1] at hk; simp only [if_true, Bool.false_eq_true, if_false] at hk ⊢; omega
    · have : ¬ some i = some k := fun e => hki (Option.some.inj e).symm
      simpa only [if_neg this, if_neg hki, Nat.add_zero] using hk
  case take c x rest hinf hop =>
    rw [hop, hinf, chOf_cons] at hk
    simp only [inflY, List.length_append, List.length_nil, length_ite_single] at hk
    simp only [inflY_some, length_ite_single]
    omega
  case answer i x y hinf =>
    rw [hinf, inflY_some, length_ite_single] at hk
    simp only [updL, inflY, List.length_nil]
    by_cases hki : k = i
    · subst hki; simp only [if_true, List.length_append, List.length_cons, List.length_nil] at hk ⊢; omega
    · have : ¬ some i = some k := fun e => hki (Option.some.inj e).symm
      simpa only [if_neg this, if_neg hki] using hk
  case drop x y hinf => rw [hinf] at hk; simpa only [inflY] using hk
  case recv i y rest hr hw =>
    simp only [updL, updB]
    by_cases hki : k = i
    · subst hki
      rw [hr, hw] at hk
      simp only [List.length_cons, if_true] at hk
      simp only [if_true, Bool.false_eq_true, if_false]
      omega
    · simpa only [if_neg hki] using hk

theorem inv2_reach {gen cap script sv s} (h : Reach gen cap script sv s) : Inv2 s := by
  induction h with
  | init => exact inv2_init script sv
  | step a _ hs ih => exact inv2_step a hs ih

theorem progress {gen cap s} (hi : Inv2 s) (hcap : 0 < cap)
    (hw : ∃ i, s.pending i ≠ [] ∨ s.waiting i = true) : ∃ a s', step gen cap s a = some s' := by
  cases hinf : s.inflight with
  | some o =>
    obtain ⟨c, x, y⟩ := o
    cases c <;> exact ⟨.answer, by simp only [step, hinf]; exact ⟨_, rfl⟩⟩
  | none =>
    cases hop : s.opCh with
    | cons o rest => exact ⟨.take, by simp only [step, hinf, hop]; exact ⟨_, rfl⟩⟩
    | nil =>
      obtain ⟨i, hi1⟩ := hw
      have hk := hi i
      unfold outst at hk
      rw [hop, hinf] at hk
      by_cases hwi : s.waiting i = true
      · simp [chOf, inflY, hwi] at hk
        cases hr : s.resCh i with
        | nil => rw [hr] at hk; simp at hk
        | cons y rest => exact ⟨.recv i, by simp only [step, hr, hwi, if_true]; exact ⟨_, rfl⟩⟩
      · have hwf : s.waiting i = false := by simpa using hwi
        cases hpp : s.pending i with
        | nil => exact absurd (hi1.resolve_right hwi) (by simp [hpp])
        | cons x rest =>
          exact ⟨.send i, by simp only [step, hpp, hwf, hop, List.length_nil, true_and, hcap, if_true]; exact ⟨_, rfl⟩⟩

theorem foldl_reach {gen cap script sv} (acts : List Act) (acc : St × Bool) (h : Reach gen cap script sv acc.1) :
    Reach gen cap script sv (acts.foldl (fun (acc : St × Bool) a =>
      match step gen cap acc.1 a with
      | some t => (t, true)
      | none => acc) acc).1 := by
  induction acts generalizing acc with
  | nil => simpa using h
  | cons a rest ih =>
    simp only [List.foldl_cons]
    apply ih
    split
    · rename_i t ht
      exact Reach.step a h ht
    · exact h

theorem runRR_reach {gen cap script sv} (n : Nat) : ∀ (fuel : Nat) (s : St),
    Reach gen cap script sv s → Reach gen cap script sv (runRR gen cap n fuel s)
  | 0, s, h => by simpa [runRR] using h
  | fuel + 1, s, h => by
    simp only [runRR]
    have hf := foldl_reach (gen := gen) (cap := cap)
      ([Act.take, Act.answer] ++ (List.range n).flatMap (fun i => [Act.recv i, Act.send i])) (s, false) h
    split
    · exact runRR_reach n fuel _ hf
    · exact hf

end FpgoVerif.C14
