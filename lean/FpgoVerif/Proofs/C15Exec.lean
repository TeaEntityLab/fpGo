import FpgoVerif.Model.C15Core
/-! The directed-schedule executor only ever moves the shared state by the component's own `gstep` / `spawn` /
    `openGate` / `compact`: any predicate closed under those (in particular `Reach`) holds in every state the
    executor visits. -/
namespace FpgoVerif.C15
variable {σ PC : Type}

/-- A finite run of a component given by its `spawn` and `gstep`: `(none, pc)` starts a goroutine at `pc`,
    `(some ch, pc)` lets a goroutine at `pc` take its atom with choice `ch`.  Evaluated by the kernel for the
    witness runs (pre-fix protocols, non-vacuity). -/
def runActs (spawn : σ → PC → Option σ) (gstep : σ → PC → Bool → Option (σ × Next PC)) :
    σ → List (Option Bool × PC) → Option σ
  | s, [] => some s
  | s, (none, pc) :: rest => (spawn s pc).bind (runActs spawn gstep · rest)
  | s, (some ch, pc) :: rest => (gstep s pc ch).bind (runActs spawn gstep ·.1 rest)

theorem runActs_witness {spawn : σ → PC → Option σ} {gstep : σ → PC → Bool → Option (σ × Next PC)} {R : σ → Prop}
    (hsp : ∀ {s s'} pc, R s → spawn s pc = some s' → R s')
    (hst : ∀ {s s' nx} pc ch, R s → gstep s pc ch = some (s', nx) → R s') (p : σ → Prop) [DecidablePred p] :
    ∀ (acts : List (Option Bool × PC)) {s}, R s → (runActs spawn gstep s acts).any (fun s => decide (p s)) = true → ∃ s', R s' ∧ p s'
  | [], s, hr, h => ⟨s, hr, of_decide_eq_true h⟩
  | (none, pc) :: rest, s, hr, h => by
    cases hs : spawn s pc <;> rw [runActs, hs] at h
    · cases h
    · exact runActs_witness hsp hst p rest (hsp pc hr hs) h
  | (some ch, pc) :: rest, s, hr, h => by
    cases hs : gstep s pc ch <;> rw [runActs, hs] at h
    · cases h
    · exact runActs_witness hsp hst p rest (hst pc ch hr hs) h

end FpgoVerif.C15

namespace FpgoVerif.C15.Exec
variable {σ PC : Type}

structure Closed (ops : Ops σ PC) (R : σ → Prop) : Prop where
  gstep : ∀ {s pc ch s' nx}, R s → ops.gstep s pc ch = some (s', nx) → R s'
  spawn : ∀ {s pc s'}, R s → ops.spawn s pc = some s' → R s'
  gate : ∀ {s}, R s → R (ops.openGate s)
  compact : ∀ {s}, R s → R (ops.compact s)

@[simp] theorem setTh_sh (e : Exec σ PC) (t : Thread PC) : (setTh e t).sh = e.sh := by
  unfold setTh; split <;> rfl

@[simp] theorem report_sh (e : Exec σ PC) (n : String) : (report e n).1.sh = e.sh := by
  unfold report
  split
  · rfl
  split
  · exact setTh_sh _ _
  split
  · rfl
  · split <;> rfl

/-- carries `R` through the leading `if`s of `execStep` one at a time (`split` on the whole step is slow to check) -/
theorem ite_R {R : σ → Prop} {c : Prop} [Decidable c] {a b : Exec σ PC × String} (ha : R a.1.sh) (hb : R b.1.sh) :
    R (if c then a else b).1.sh := by
  split <;> assumption

section
variable {ops : Ops σ PC} {R : σ → Prop} (hc : Closed ops R)
include hc

theorem stepTh_R {e e' : Exec σ PC} {t ch} (hr : R e.sh) (h : stepTh ops e t ch = some e') : R e'.sh := by
  unfold stepTh at h
  split at h
  · -- finishing or not, the atom leaves `ops.compact` of a `gstep` successor
    split at h <;> cases h
    all_goals
      rename_i hg
      simpa using hc.compact (hc.gstep hr hg)
  · cases h

theorem firstStep_R {e e' : Exec σ PC} {ch} (hr : R e.sh) : ∀ (l : List (Thread PC)), firstStep ops e ch l = some e' → R e'.sh
  | [], h => by cases h
  | t :: rest, h => by
    simp only [firstStep] at h
    split at h
    · rename_i hs
      cases h
      exact stepTh_R hc hr hs
    · exact firstStep_R hr rest h

theorem settle_R : ∀ (n : Nat) (e : Exec σ PC), R e.sh → R (settle ops n e).sh
  | 0, _, hr => hr
  | n + 1, e, hr => by
    simp only [settle]
    split
    · rename_i h1
      exact settle_R n _ (firstStep_R hc hr _ h1)
    split
    · rename_i h1
      exact settle_R n _ (firstStep_R hc hr _ h1)
    · exact hr

theorem execStep_R (e : Exec σ PC) (tok : String) (hr : R e.sh) : R (execStep ops e tok).1.sh := by
  have hs := settle_R hc fuel0 e hr
  unfold execStep
  simp only
  -- `gate`
  refine ite_R (settle_R hc _ _ (hc.gate hr)) ?_
  -- `I+p`: only arms the internal goroutines
  refine ite_R hr ?_
  -- `I?p`
  refine ite_R (ite_R hs hs) ?_
  -- `I>p`
  refine ite_R (settle_R hc _ _ hr) ?_
  split
  · -- `T=op[@pt]`: busy / unknown operation / refused spawn leave the state alone
    refine ite_R hr ?_
    split
    · exact hr
    split
    · exact hr
    · rename_i hsp
      simp only [report_sh]
      exact settle_R hc _ _ (by simpa using hc.compact (hc.spawn hr hsp))
  split
  · -- `T>[@pt]`
    split
    · exact hr
    · simp only [report_sh]
      exact settle_R hc _ _ (by simpa using hr)
  · exact hr

theorem run_R (steps : List String) (acc : Exec σ PC × List String) (hr : R acc.1.sh) :
    R (steps.foldl (fun (acc : Exec σ PC × List String) tok =>
        let (e, o) := execStep ops acc.1 tok
        (e, o :: acc.2)) acc).1.sh := by
  induction steps generalizing acc with
  | nil => exact hr
  | cons tok rest ih => exact ih _ (execStep_R hc acc.1 tok hr)

end

/-- the state from which `finish` reports: parks released, gate open, run to quiescence -/
theorem finishState_R {ops : Ops σ PC} {R : σ → Prop} (hc : Closed ops R) (e : Exec σ PC) (hr : R e.sh) :
    R (settle ops fuel0 { e with sh := ops.openGate e.sh, ths := e.ths.map (fun t => { t with parked := none, arm := [] }) }).sh :=
  settle_R hc _ _ (hc.gate hr)

end FpgoVerif.C15.Exec
