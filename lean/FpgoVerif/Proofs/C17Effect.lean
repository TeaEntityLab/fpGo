import FpgoVerif.Model.C17
/-! The frame / log relation `Ext` between worlds and the case analyses of the send path, for the effect-level
    theorems of C17. -/
namespace FpgoVerif.C17

structure Ext (w w' : World) (rs : List SentReq) : Prop where
  log : w'.log = w.log ++ rs
  len : w.heap.length ≤ w'.heap.length
  frame : ∀ a, a < w.heap.length → w'.get a = w.get a

theorem Ext.refl (w : World) : Ext w w [] := ⟨by simp, Nat.le_refl _, fun _ _ => rfl⟩

theorem Ext.trans {w1 w2 w3 : World} {r1 r2} (h1 : Ext w1 w2 r1) (h2 : Ext w2 w3 r2) : Ext w1 w3 (r1 ++ r2) :=
  ⟨by rw [h2.log, h1.log, List.append_assoc], Nat.le_trans h1.len h2.len,
   fun a ha => by rw [h2.frame a (Nat.lt_of_lt_of_le ha h1.len), h1.frame a ha]⟩

theorem ext_alloc (w : World) (h : Header) : Ext w (w.alloc h).2 [] :=
  ⟨by simp [World.alloc], by simp [World.alloc], fun a ha => by
    simp [World.alloc, World.get, List.getElem?_append_left ha]⟩

theorem get_alloc (w : World) (h : Header) : (w.alloc h).2.get (w.alloc h).1 = h := by
  simp [World.alloc, World.get]

theorem ext_set_fresh (w : World) (a : Nat) (h : Header) (n : Nat) (hn : n ≤ a) (hl : n ≤ w.heap.length) :
    (∀ b, b < n → (w.set a h).get b = w.get b) ∧ (w.set a h).heap.length = w.heap.length ∧ (w.set a h).log = w.log := by
  refine ⟨fun b hb => ?_, by simp [World.set], by simp [World.set]⟩
  have : a ≠ b := by omega
  simp [World.set, World.get, List.getElem?_set_ne this]

theorem decode_no_panic (env : Env) (raw : Except ErrC Str) (tgt : Nat) (w : World) :
    (decodeResponseBody true env raw tgt w).1 ≠ .panic := by
  unfold decodeResponseBody
  cases raw with
  | error e => simp
  | ok b =>
    cases h : (env.deser b (w.target tgt)).1 <;> simp [h]

theorem decode_world (c : Bool) (env : Env) (raw : Except ErrC Str) (tgt : Nat) (w : World) :
    (decodeResponseBody c env raw tgt w).2.log = w.log ∧ (decodeResponseBody c env raw tgt w).2.heap = w.heap := by
  unfold decodeResponseBody
  cases raw with
  | error e => simp
  | ok b =>
    cases h : (env.deser b (w.target tgt)).1 <;> cases c <;> simp [h, World.setTarget]

def addCT (h : Header) (ct : Str) : Header := if ct ≠ [] then hAdd h contentTypeKey ct else h

theorem get_append_len (w : World) (h : Header) (ext : List Header) :
    (World.get { w with heap := w.heap ++ h :: ext } w.heap.length) = h := by
  simp [World.get]

/-- `DoNewRequestWithBodyOptions` with a header argument that is nil or a map at address `a` -/
theorem dnrwbo_cases (env : Env) (h : Option Nat) (m u b ct : Str) (w : World) :
    (validMethod (normMethod m) = false ∧ doNewRequestWithBodyOptions env h m u b ct w = (.error .method, w)) ∨
    (validMethod (normMethod m) = true ∧ urlParse u = none ∧ doNewRequestWithBodyOptions env h m u b ct w = (.error .url, w)) ∨
    (∃ u', validMethod (normMethod m) = true ∧ urlParse u = some u' ∧
      let a := h.getD w.heap.length
      let w1 : World := { w with heap := w.heap ++ [[]] }
      let w2 : World := if ct ≠ [] then w1.set a (hAdd (w1.get a) contentTypeKey ct) else w1
      let r : SentReq := ⟨normMethod m, u', a, w2.get a, b⟩
      doNewRequestWithBodyOptions env h m u b ct w = (env.transport r, { w2 with log := w2.log ++ [r] })) := by
  unfold doNewRequestWithBodyOptions newRequest
  by_cases hv : validMethod (normMethod m) = true
  · cases hu : urlParse u with
    | none => right; left; simp [hv]
    | some u' =>
      right; right
      refine ⟨u', hv, rfl, ?_⟩
      cases h with
      | none => simp [hv, World.alloc, doRequest]
      | some a => simp [hv, World.alloc, doRequest]
  · left
    have : validMethod (normMethod m) = false := by simpa using hv
    simp [this]

theorem dnr_eq (env : Env) (h : Option Nat) (m u : Str) (w : World) :
    doNewRequest env h m u w = doNewRequestWithBodyOptions env h m u "nil".toList [] w := by
  unfold doNewRequest doNewRequestWithBodyOptions
  cases hnr : newRequest m u "nil".toList w with
  | mk r w' => cases r <;> simp

theorem dnr_cases (env : Env) (h : Option Nat) (m u : Str) (w : World) :
    (validMethod (normMethod m) = false ∧ doNewRequest env h m u w = (.error .method, w)) ∨
    (validMethod (normMethod m) = true ∧ urlParse u = none ∧ doNewRequest env h m u w = (.error .url, w)) ∨
    (∃ u', validMethod (normMethod m) = true ∧ urlParse u = some u' ∧
      let a := h.getD w.heap.length
      let w1 : World := { w with heap := w.heap ++ [[]] }
      let r : SentReq := ⟨normMethod m, u', a, w1.get a, "nil".toList⟩
      doNewRequest env h m u w = (env.transport r, { w1 with log := w1.log ++ [r] })) := by
  rw [dnr_eq]; exact dnrwbo_cases env h m u "nil".toList [] w

def sendWith (env : Env) (dh : Option Nat) (m u b ct : Str) (w : World) : Except ErrC (Except ErrC Str) × World :=
  doNewRequestWithBodyOptions env (cloneHeader true dh w).1 m u b ct (cloneHeader true dh w).2

structure IsSpecRequest (dhContent : Header) (m u b ct : Str) (w : World) (r : SentReq) : Prop where
  method : r.method = normMethod m
  url : urlParse u = some r.url
  body : r.body = b
  hdr : r.hdr = addCT dhContent ct
  fresh : r.hdrAddr = w.heap.length

/-- Both shapes of `DefaultHeader` are instances: nil (`c = []`, `tl = []`: the request's own empty map) and a map (`c` its
    clone, `tl` the then unused empty map).  The header map is the first new cell in either. -/
theorem sent_spec (w : World) (c : Header) (tl : List Header) (m u u' b ct : Str) (hu : urlParse u = some u') :
    let w1 : World := { w with heap := w.heap ++ c :: tl }
    let w2 : World := if ct ≠ [] then w1.set w.heap.length (hAdd (w1.get w.heap.length) contentTypeKey ct) else w1
    let r : SentReq := ⟨normMethod m, u', w.heap.length, w2.get w.heap.length, b⟩
    IsSpecRequest c m u b ct w r ∧ Ext w { w2 with log := w2.log ++ [r] } [r] := by
  intro w1 w2 r
  -- with or without a content type, the header map is the cell after `w`'s, and it holds `addCT c ct`
  have h2 : w2 = { w with heap := w.heap ++ addCT c ct :: tl } := by
    by_cases hc : ct = []
    · simp [w2, w1, addCT, hc]
    · simp [w2, w1, addCT, hc, World.set, World.get]
  refine ⟨⟨rfl, hu, rfl, ?_, rfl⟩, ?_⟩
  · show w2.get w.heap.length = _
    rw [h2]
    exact get_append_len w _ tl
  · rw [h2]
    exact ⟨rfl, by simp, fun a ha => by simp [World.get, List.getElem?_append_left ha]⟩

theorem sendWith_cases (env : Env) (dh : Option Nat) (m u b ct : Str) (w : World) :
    (∃ w' e, sendWith env dh m u b ct w = (.error e, w') ∧ Ext w w' [] ∧
      ((e = .method ∧ validMethod (normMethod m) = false) ∨ (e = .url ∧ urlParse u = none))) ∨
    (∃ r w', IsSpecRequest ((dh.map w.get).getD []) m u b ct w r ∧ Ext w w' [r] ∧
      sendWith env dh m u b ct w = (env.transport r, w')) := by
  unfold sendWith
  have hcl : Ext w (cloneHeader true dh w).2 [] := by
    cases dh with
    | none => exact Ext.refl w
    | some a0 => exact ext_alloc w (w.get a0)
  rcases dnrwbo_cases env (cloneHeader true dh w).1 m u b ct (cloneHeader true dh w).2
    with ⟨h1, h2⟩ | ⟨_, h2, h3⟩ | ⟨u', _, h2, h3⟩
  · exact Or.inl ⟨_, .method, h2, hcl, Or.inl ⟨rfl, h1⟩⟩
  · exact Or.inl ⟨_, .url, h3, hcl, Or.inr ⟨rfl, h2⟩⟩
  · cases dh with
    | none =>
      have hs := sent_spec w [] [] m u u' b ct h2
      exact Or.inr ⟨_, _, hs.1, hs.2, h3⟩
    | some a0 =>
      have hs := sent_spec w (w.get a0) [[]] m u u' b ct h2
      simp only [cloneHeader, World.alloc, if_true, List.append_assoc, List.cons_append, List.nil_append,
        Option.getD_some] at h3
      exact Or.inr ⟨_, _, hs.1, hs.2, h3⟩

/-- what the serializer stage yields: body record and content type (`Err` aborts before anything is sent) -/
def serialize (d : ApiDef) (env : Env) (body : Option Body) : Except ErrC (Str × Str) :=
  match d.kind with
  | .noBody => .ok ("nil".toList, [])
  | .body => match body with
    | none => .ok ("nil".toList, d.contentType)
    | some b => (env.jsonSer b).map (·, d.contentType)
  | .multipart => match body with
    | none => .ok ("nil".toList, [])
    | some b => env.mpSer b

theorem effect_eq_sendWith (api : Api) (d : ApiDef) (env : Env) (ps : List (Str × Val)) (body : Option Body)
    (tgt : Nat) (w : World) :
    effect {} api d env ps body tgt w =
      match serialize d env body with
      | .error e => (.resp (some e) none, w)
      | .ok (b, ct) =>
        match sendWith env api.defaultHeader d.method (urlOf {} api d ps) b ct w with
        | (.error e, w) => (.resp (some e) none, w)
        | (.ok raw, w) => decodeResponseBody true env raw tgt w := by
  unfold effect serialize sendWith
  cases d.kind with
  | noBody => simp only [dnr_eq]; rfl
  | body =>
    cases body with
    | none => rfl
    | some b => simp only []; cases h : env.jsonSer b <;> simp only [Except.map] <;> rfl
  | multipart =>
    cases body with
    | none => rfl
    | some b =>
      simp only []
      cases h : env.mpSer b with
      | error e => rfl
      | ok p => cases p; rfl

end FpgoVerif.C17
