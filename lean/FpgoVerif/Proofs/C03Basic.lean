import FpgoVerif.Model.C03Defs
/-! C03 — checked indexing, `fillLoop`, slices. -/
namespace FpgoVerif.C03

variable {α β κ ν : Type}

@[simp] theorem bind_ok {a b : Type} (x : a) (f : a → Res b) : (Except.ok x >>= f) = f x := rfl
@[simp] theorem pure_eq_ok {a : Type} (x : a) : (pure x : Res a) = .ok x := rfl

theorem getN_append_cons (pre : List α) (x : α) (rest : List α) :
    getN (pre ++ x :: rest) pre.length = .ok x := by
  simp [getN]

theorem getN_of_eq (l pre : List α) (x : α) (rest : List α) (i : Nat) (hl : l = pre ++ x :: rest)
    (hi : i = pre.length) : getN l i = .ok x := by
  subst hl hi; exact getN_append_cons _ _ _

theorem getN_lt {l : List α} {i : Nat} (h : i < l.length) : getN l i = .ok l[i] := by
  rw [getN, List.getElem?_eq_getElem h]

theorem setN_append_cons (pre : List α) (a v : α) (post : List α) :
    setN (pre ++ a :: post) pre.length v = .ok (pre ++ v :: post) := by
  simp [setN]

theorem fillLoop_spec (g : α → Nat → β) (src : List α) (base j : Nat) (pre mid post : List β)
    (hpre : pre.length = base + j) (hmid : mid.length = src.length) :
    fillLoop g src base j (pre ++ mid ++ post)
      = .ok (pre ++ (src.zipIdx j).map (fun p => g p.1 p.2) ++ post) := by
  induction src generalizing j pre mid with
  | nil => rw [List.eq_nil_of_length_eq_zero hmid]; simp [fillLoop]
  | cons x rest ih =>
    obtain ⟨m, mid, rfl⟩ := List.exists_cons_of_length_eq_add_one hmid
    have h2 := ih (j + 1) (pre ++ [g x j]) mid (by simp [hpre, Nat.add_assoc]) (Nat.succ.inj hmid)
    rw [fillLoop, ← hpre, List.append_assoc, List.cons_append, setN_append_cons, bind_ok]
    simpa [List.zipIdx_cons] using h2

theorem map_zipIdx_fst (h : α → β) (l : List α) (k : Nat) :
    (l.zipIdx k).map (fun p => h p.1) = l.map h := by
  induction l generalizing k with
  | nil => rfl
  | cons x t ih => simp [List.zipIdx_cons, ih]

theorem fillLoop_whole (g : α → Nat → β) (src : List α) (z : β) :
    fillLoop g src 0 0 (mk src.length z) = .ok ((src.zipIdx 0).map (fun p => g p.1 p.2)) := by
  simpa using fillLoop_spec g src 0 0 [] (mk src.length z) [] rfl (by simp [mk])

theorem fillLoop_push (g : α → Nat → β) (src : List α) (pre pad : List β) (h : src.length ≤ pad.length) :
    fillLoop g src pre.length 0 (pre ++ pad)
      = .ok (pre ++ (src.zipIdx 0).map (fun p => g p.1 p.2) ++ pad.drop src.length) := by
  have := fillLoop_spec g src pre.length 0 pre (pad.take src.length) (pad.drop src.length) rfl
    (List.length_take_of_le h)
  rwa [List.append_assoc pre, List.take_append_drop] at this

theorem Sl.reslice_vis (s : Sl α) {a b : Int} (ha : 0 ≤ a) (hab : a ≤ b) (hb : b ≤ s.len) :
    (s.reslice a b).map Sl.vis = .ok ((s.vis.take b.toNat).drop a.toNat) := by
  have hc : b ≤ s.cap := Int.le_trans hb (by unfold Sl.len Sl.cap; omega)
  rw [Sl.reslice, if_pos ⟨ha, hab, hc⟩]
  show Except.ok _ = _
  rw [List.take_append_of_le_length (Int.toNat_le.mpr hb)]

end FpgoVerif.C03
