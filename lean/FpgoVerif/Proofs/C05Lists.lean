import FpgoVerif.Proofs.C05Maps
/-! C05 — the slice functions, the judge's Bool checks, the pass over the twin tables. -/
namespace FpgoVerif.C05
variable {α : Type} [DecidableEq α]

theorem existsIn_iff (x : α) (l : List α) : existsIn x l = true ↔ x ∈ l := by
  induction l with
  | nil => simp [existsIn]
  | cons v vs ih =>
    by_cases h : v = x
    · simp [existsIn, h]
    · simp [existsIn, h, Ne.symm h, ih]

namespace Spec

theorem mem_dedup (y : α) (l : List α) : y ∈ dedup l ↔ y ∈ l := by
  induction l with
  | nil => simp [dedup]
  | cons x xs ih => by_cases h : y = x <;> simp [dedup, h, ih]

theorem nodup_dedup (l : List α) : (dedup l).Nodup := by
  induction l with
  | nil => exact List.nodup_nil
  | cons x xs ih => exact List.nodup_cons.2 ⟨by simp, ih.sublist List.filter_sublist⟩

theorem nodup_filter_dedup (l : List α) (p : α → Bool) : ((dedup l).filter p).Nodup :=
  (nodup_dedup l).sublist List.filter_sublist

end Spec

theorem Spec.filter_dedup_cons (p : α → Bool) (v : α) (vs : List α) :
    (Spec.dedup (v :: vs)).filter p =
      if p v then v :: (Spec.dedup vs).filter (fun y => p y && decide (y ≠ v)) else (Spec.dedup vs).filter p := by
  rw [Spec.dedup, List.filter_cons, List.filter_filter]
  split
  · rfl
  · exact List.filter_congr fun y _ => by by_cases hy : y = v <;> simp_all

theorem dedupLoop_eq (keep : α → Bool) (l seen acc : List α) :
    dedupLoop keep l seen acc = acc ++ (Spec.dedup l).filter (fun y => keep y && !existsIn y seen) := by
  induction l generalizing seen acc with
  | nil => simp [dedupLoop, Spec.dedup]
  | cons v vs ih =>
    rw [Spec.filter_dedup_cons, dedupLoop]
    cases keep v <;> cases hs : existsIn v seen <;> simp only [ih, Bool.false_eq_true, if_false, if_true,
      Bool.and_false, Bool.and_true, Bool.not_true, Bool.not_false]
    -- `v` is seen from now on
    rw [List.append_assoc, List.singleton_append]
    congr 2
    exact List.filter_congr fun y _ => by
      by_cases hy : v = y
      · simp [existsIn, hy]
      · simp [existsIn, hy, Ne.symm hy]

theorem dedupLoop_start (keep : α → Bool) (l : List α) :
    dedupLoop keep l [] [] = (Spec.dedup l).filter keep := by
  rw [dedupLoop_eq]; simp [existsIn]

section
variable (x : α) (ls : List (List α))

theorem matchCount_eq_countP : matchCount x ls = ls.countP (existsIn x) := by
  induction ls with
  | nil => rfl
  | cons l ls ih => rw [matchCount, List.countP_cons, ih, Nat.add_comm]

theorem matchCount_beq_length : (matchCount x ls == ls.length) = ls.all (fun l => decide (x ∈ l)) := by
  rw [Bool.eq_iff_iff, beq_iff_eq, matchCount_eq_countP, List.countP_eq_length]; simp [existsIn_iff]

theorem matchCount_beq_zero : (matchCount x ls == 0) = ls.all (fun l => decide (x ∉ l)) := by
  rw [Bool.eq_iff_iff, beq_iff_eq, matchCount_eq_countP, List.countP_eq_zero]; simp [existsIn_iff]

end

/-- the seen-list of IsSubset only saves lookups: it never holds anything outside `l2` -/
theorem isSubsetLoop_iff (l2 l seen : List α) (hseen : ∀ y ∈ seen, y ∈ l2) :
    isSubsetLoop l2 l seen = true ↔ ∀ x ∈ l, x ∈ l2 := by
  induction l generalizing seen with
  | nil => simp [isSubsetLoop]
  | cons x xs ih =>
    simp only [isSubsetLoop, existsIn_iff, List.mem_cons, forall_eq_or_imp]
    by_cases hs : x ∈ seen
    · simp [hs, ih seen hseen, hseen x hs]
    · by_cases h2 : x ∈ l2
      · simp [hs, h2, ih (x :: seen) (by simpa [h2] using hseen)]
      · simp [hs, h2]

theorem shiftDown_eq {β : Type} (s : List β) (n : Nat) : I.shiftDown s n = s.take n ++ s.drop (n + 1) := by
  induction s generalizing n with
  | nil => simp [I.shiftDown]
  | cons x t ih => cases n <;> simp [I.shiftDown, ih]

/-! The Bool checks the judge evaluates are implied by the Prop-level laws (so the oracle accepts every
    result that satisfies the theorems of `Props/C05.lean`). -/

theorem Spec.nodup_iff (l : List Nat) : Spec.nodup l = true ↔ l.Nodup := by
  induction l with
  | nil => simp [Spec.nodup]
  | cons x xs ih => simp [Spec.nodup, ih, List.nodup_cons]

theorem Spec.members_of (univ r : List Nat) (p : Nat → Bool) (h : ∀ x, x ∈ r ↔ p x = true) :
    Spec.members univ r p = true := by
  rw [Spec.members, List.all_eq_true]
  intro x _
  rw [beq_iff_eq, Bool.eq_iff_iff, List.contains_iff_mem, h]

theorem Spec.ordered_of (a r : List Nat) (q : Nat → Bool) (h : r = (Spec.dedup a).filter q) : Spec.ordered a r = true := by
  rw [Spec.ordered, beq_iff_eq]
  subst h
  exact List.filter_congr fun x hx => by
    rw [Bool.eq_iff_iff, List.contains_iff_mem, List.mem_filter, and_iff_right hx]

/-! The twin tables are lists of names in the same (sorted) order.  Evaluating `ks.all fun k => l.any (m k)`
    as it stands compares every key with every element, and comparing strings is what the kernel is
    slow at; one pass over both lists finds the same matches. -/

def scan {β γ : Type} (m : β → γ → Bool) : List β → List γ → Bool
  | [], _ => true
  | _ :: _, [] => false
  | k :: ks, x :: xs => if m k x then scan m ks xs else scan m (k :: ks) xs

theorem all_any_of_scan {β γ : Type} (m : β → γ → Bool) (ks : List β) (l : List γ) (h : scan m ks l = true) :
    ks.all (fun k => l.any (m k)) = true := by
  induction l generalizing ks with
  | nil => cases ks with
    | nil => rfl
    | cons _ _ => simp [scan] at h
  | cons x xs ih =>
    cases ks with
    | nil => rfl
    | cons k ks =>
      have mono (ks' : List β) (h' : ks'.all (fun k => xs.any (m k)) = true) :
          ks'.all (fun k => (x :: xs).any (m k)) = true := by
        simp only [List.all_eq_true, List.any_cons, Bool.or_eq_true] at h' ⊢
        exact fun k hk => Or.inr (h' k hk)
      rw [scan] at h
      split at h
      · rw [List.all_cons, List.any_cons, ‹m k x = true›, Bool.true_or, Bool.true_and]
        exact mono ks (ih ks h)
      · exact mono _ (ih _ h)

end FpgoVerif.C05
