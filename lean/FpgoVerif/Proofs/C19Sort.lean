import FpgoVerif.Model.C19
/-! Generic facts about `sortBy` (stable sort under a strict weak order). -/
namespace FpgoVerif.C19

variable {α : Type} {less : α → α → Bool}

theorem StrictWeak.irrefl (h : StrictWeak less) (a : α) : less a a = false := h.1 a

theorem StrictWeak.trans (h : StrictWeak less) {a b c : α}
    (hab : less a b = true) (hbc : less b c = true) : less a c = true := h.2.1 a b c hab hbc

theorem StrictWeak.negTrans (h : StrictWeak less) {a b : α} (c : α)
    (hab : less a b = true) : less a c = true ∨ less c b = true := h.2.2 a b c hab

theorem StrictWeak.asymm (h : StrictWeak less) {a b : α}
    (hab : less a b = true) : less b a = false := by
  cases hba : less b a with
  | false => rfl
  | true => have := h.trans hab hba; rw [h.irrefl] at this; cases this

theorem StrictWeak.comap {κ : Type} {less : κ → κ → Bool} (h : StrictWeak less) (k : α → κ) :
    StrictWeak (fun a b => less (k a) (k b)) :=
  ⟨fun a => h.irrefl (k a), fun _ _ _ => h.trans, fun _ _ c => h.negTrans (k c)⟩

theorem StrictWeak.of_trichotomy (irr : ∀ a, less a a = false)
    (tr : ∀ a b c, less a b = true → less b c = true → less a c = true)
    (tri : ∀ a b, a = b ∨ less a b = true ∨ less b a = true) : StrictWeak less :=
  ⟨irr, tr, fun a b c hab => by
    rcases tri a c with rfl | e | e
    · exact .inr hab
    · exact .inl e
    · exact .inr (tr _ _ _ e hab)⟩

/-- `le a b := !less b a`, the order `List.mergeSort` is run with, is transitive -/
theorem StrictWeak.le_trans (h : StrictWeak less) (a b c : α)
    (hab : (!less b a) = true) (hbc : (!less c b) = true) : (!less c a) = true := by
  cases hca : less c a with
  | false => rfl
  | true =>
    rcases h.negTrans b hca with h1 | h1
    · rw [h1] at hbc; cases hbc
    · rw [h1] at hab; cases hab

/-- `le a b := !less b a` is total; with transitivity, the two hypotheses of core's `mergeSort` lemmas -/
theorem StrictWeak.le_total (h : StrictWeak less) (a b : α) :
    ((!less b a) || (!less a b)) = true := by
  cases hba : less b a with
  | false => rfl
  | true => simp [h.asymm hba]

theorem equivBy_refl (h : StrictWeak less) (a : α) : equivBy less a a = true := by
  simp [equivBy, h.irrefl]

theorem equivBy_symm {less : α → α → Bool} {a b : α} (hab : equivBy less a b = true) :
    equivBy less b a = true := by
  simp [equivBy] at *; exact ⟨hab.2, hab.1⟩

theorem not_less_of_equiv (h : StrictWeak less) {x a b : α}
    (ha : equivBy less x a = true) (hb : equivBy less x b = true) : less b a = false := by
  simp [equivBy] at ha hb
  cases hba : less b a with
  | false => rfl
  | true =>
    rcases h.negTrans x hba with h1 | h1
    · rw [hb.2] at h1; cases h1
    · rw [ha.1] at h1; cases h1

theorem sortBy_perm (less : α → α → Bool) (l : List α) : (sortBy less l).Perm l :=
  List.mergeSort_perm l _

theorem sortBy_pairwise (h : StrictWeak less) (l : List α) :
    (sortBy less l).Pairwise (fun a b => less b a = false) :=
  (List.pairwise_mergeSort (le := fun a b => !less b a) h.le_trans h.le_total l).imp (by simp)

/-- stability: every class of elements the comparator does not distinguish keeps its input order -/
theorem sortBy_filter_equiv (h : StrictWeak less) (l : List α) (x : α) :
    (sortBy less l).filter (equivBy less x) = l.filter (equivBy less x) := by
  have hpw : (l.filter (equivBy less x)).Pairwise (fun a b => (!less b a) = true) :=
    List.pairwise_of_forall_mem_list fun a ha b hb => by
      simp [not_less_of_equiv h (List.mem_filter.1 ha).2 (List.mem_filter.1 hb).2]
  have hsub : (l.filter (equivBy less x)).Sublist (sortBy less l) :=
    List.sublist_mergeSort (le := fun a b => !less b a) h.le_trans h.le_total hpw List.filter_sublist
  have hsub2 := hsub.filter (equivBy less x)
  rw [List.filter_filter] at hsub2
  simp only [Bool.and_self] at hsub2
  have hlen : (l.filter (equivBy less x)).length = ((sortBy less l).filter (equivBy less x)).length :=
    ((sortBy_perm less l).filter _).length_eq.symm
  exact (hsub2.eq_of_length hlen).symm

theorem sortBy_spec (h : StrictWeak less) (l : List α) :
    (sortBy less l).Perm l ∧ (sortBy less l).Pairwise (fun a b => less b a = false) ∧
    ∀ x, (sortBy less l).filter (equivBy less x) = l.filter (equivBy less x) :=
  ⟨sortBy_perm less l, sortBy_pairwise h l, sortBy_filter_equiv h l⟩

theorem equivBy_trans (h : StrictWeak less) {x a b : α}
    (ha : equivBy less x a = true) (hb : equivBy less x b = true) : equivBy less a b = true := by
  simp [equivBy, not_less_of_equiv h ha hb, not_less_of_equiv h hb ha]

/-- stability in position form, for an input that carries strictly increasing indices -/
theorem sortBy_stable_idx (h : StrictWeak less) (idx : α → Nat) (l : List α)
    (hl : l.Pairwise (fun a b => idx a < idx b)) :
    (sortBy less l).Pairwise (fun a b => equivBy less a b = true → idx a < idx b) := by
  rw [List.pairwise_iff_forall_sublist]
  intro p q hsub he
  have hs := hsub.filter (equivBy less p)
  rw [sortBy_filter_equiv h] at hs
  rw [List.filter_cons_of_pos (equivBy_refl h p), List.filter_cons_of_pos he, List.filter_nil] at hs
  exact (List.pairwise_iff_forall_sublist.mp hl) (hs.trans List.filter_sublist)

/-- the converse of `sortBy_stable_idx`, for a permutation `r` of `l` -/
theorem filter_equiv_of_stable_idx (h : StrictWeak less) (idx : α → Nat) (l r : List α)
    (hl : l.Pairwise (fun a b => idx a < idx b)) (hperm : r.Perm l)
    (hr : r.Pairwise (fun a b => equivBy less a b = true → idx a < idx b)) (x : α) :
    r.filter (equivBy less x) = l.filter (equivBy less x) := by
  apply List.Perm.eq_of_pairwise (le := fun a b => idx a < idx b)
  · intro a b _ _ h1 h2; omega
  · rw [List.pairwise_filter]
    refine hr.imp ?_
    intro a b hab ha hb
    exact hab (equivBy_trans h ha hb)
  · exact hl.sublist List.filter_sublist
  · exact hperm.filter _

theorem stable_sorted_unique (h : StrictWeak less) :
    ∀ (r₁ r₂ : List α), r₁.Perm r₂ →
      r₁.Pairwise (fun a b => less b a = false) → r₂.Pairwise (fun a b => less b a = false) →
      (∀ x, r₁.filter (equivBy less x) = r₂.filter (equivBy less x)) → r₁ = r₂
  | [], r₂, hp, _, _, _ => by simpa using hp.symm.eq_nil
  | a :: t₁, [], hp, _, _, _ => by simpa using hp.eq_nil
  | a :: t₁, b :: t₂, hp, h1, h2, hf => by
    -- the head of a sorted list is not after the head of a permutation of it: `a` and `b` are equivalent
    have head : ∀ {a b : α} {t₁ t₂ : List α}, (a :: t₁).Perm (b :: t₂) →
        (a :: t₁).Pairwise (fun a b => less b a = false) → less b a = false := fun hp h1 => by
      rcases List.mem_cons.mp (hp.symm.subset List.mem_cons_self) with rfl | hb
      · exact h.irrefl _
      · exact (List.pairwise_cons.mp h1).1 _ hb
    have e : equivBy less a b = true := by simp [equivBy, head hp h1, head hp.symm h2]
    have hfa := hf a
    rw [List.filter_cons_of_pos (equivBy_refl h a), List.filter_cons_of_pos e] at hfa
    obtain rfl : a = b := (List.cons.inj hfa).1
    refine congrArg _ (stable_sorted_unique h t₁ t₂ hp.cons_inv h1.of_cons h2.of_cons fun x => ?_)
    have := hf x
    by_cases hx : equivBy less x a = true
    · rw [List.filter_cons_of_pos hx, List.filter_cons_of_pos hx] at this
      exact (List.cons.inj this).2
    · rwa [List.filter_cons_of_neg hx, List.filter_cons_of_neg hx] at this

end FpgoVerif.C19
