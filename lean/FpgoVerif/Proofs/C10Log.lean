import FpgoVerif.Proofs.C10Inv
/-! C10: what a step does to stacks, call ids, finished calls and log (`StepCtl`); with it, the
    ghost `dl` of a Publish call is exactly the part of the GLOBAL delivery log that belongs to it (call ids are
    unique among live and finished calls). -/
namespace FpgoVerif.C10

def framePids : List Frame → List Nat
  | [] => []
  | .pub f :: r => f.pid :: framePids r
  | .cb :: r => framePids r
  | .unsub _ :: r => framePids r

theorem mem_framePids {st : List Frame} {f : PubF} (h : .pub f ∈ st) : f.pid ∈ framePids st := by
  induction st with
  | nil => cases h
  | cons a r ih =>
    rcases List.mem_cons.1 h with h' | h'
    · subst h'; simp [framePids]
    · cases a <;> simp [framePids, ih h']

theorem dlOf_cons_same (log : List (Nat × Nat × Int × Bool)) (p c : Nat) (v : Int) (b : Bool) :
    dlOf ((p, c, v, b) :: log) p = dlOf log p ++ [c] := by
  simp [dlOf]

theorem dlOf_cons_other (log : List (Nat × Nat × Int × Bool)) (p q c : Nat) (v : Int) (b : Bool) (h : p ≠ q) :
    dlOf ((p, c, v, b) :: log) q = dlOf log q := by
  simp [dlOf, h]

theorem dlOf_fresh (log : List (Nat × Nat × Int × Bool)) (n : Nat) (h : ∀ e ∈ log, e.1 < n) : dlOf log n = [] := by
  unfold dlOf
  have : log.filter (fun e => e.1 = n) = [] := by
    rw [List.filter_eq_nil_iff]
    intro e he; have := h e he; simp; omega
  simp [this]

def Tracks (log : List (Nat × Nat × Int × Bool)) (f : PubF) : Prop :=
  dlOf log f.pid = f.dl ∧ ∀ e ∈ log, e.1 = f.pid → e.2.2.1 = f.val

theorem Tracks.congr {log} {g0 g : PubF} (hp : g0.pid = g.pid) (hd : g0.dl = g.dl) (hv : g0.val = g.val)
    (h : Tracks log g0) : Tracks log g := by
  unfold Tracks at *; rw [← hp, ← hd, ← hv]; exact h

theorem Tracks.cons_other {log} {f : PubF} {p c : Nat} {v : Int} {b : Bool} (hne : p ≠ f.pid) (h : Tracks log f) :
    Tracks ((p, c, v, b) :: log) f :=
  ⟨by rw [dlOf_cons_other _ _ _ _ _ _ hne]; exact h.1, fun e he hpe => by
    rcases List.mem_cons.1 he with rfl | he
    · exact absurd hpe hne
    · exact h.2 e he hpe⟩

theorem Tracks.cons_self {log} {f : PubF} (c : Nat) (b : Bool) (h : Tracks log f) :
    Tracks ((f.pid, c, f.val, b) :: log) { f with k := f.k + 1, dl := f.dl ++ [c] } :=
  ⟨by show dlOf ((f.pid, _, _, _) :: log) f.pid = f.dl ++ [c]; rw [dlOf_cons_same, h.1], fun e he hpe => by
    rcases List.mem_cons.1 he with rfl | he
    · rfl
    · exact h.2 e he hpe⟩

theorem tracks_fresh {log} {f : PubF} (h : ∀ e ∈ log, e.1 < f.pid) (hd : f.dl = []) : Tracks log f :=
  ⟨by rw [hd]; exact dlOf_fresh _ _ h, fun e he hpe => absurd hpe (Nat.ne_of_lt (h e he))⟩

structure PInv (s : State) : Prop where
  lt : ∀ t, ∀ p ∈ framePids (s.stacks t), p < s.nextPid
  nodup : ∀ t, (framePids (s.stacks t)).Nodup
  disj : ∀ t u, t ≠ u → ∀ p ∈ framePids (s.stacks t), p ∉ framePids (s.stacks u)
  recLt : ∀ r ∈ s.ended, r.f.pid < s.nextPid
  recDisj : ∀ r ∈ s.ended, ∀ t, r.f.pid ∉ framePids (s.stacks t)
  logLt : ∀ e ∈ s.log, e.1 < s.nextPid
  live : ∀ t f, .pub f ∈ s.stacks t → Tracks s.log f
  fin : ∀ r ∈ s.ended, Tracks s.log r.f

theorem upd_self {β} (f : Nat → β) (a : Nat) : upd f a (f a) = f :=
  funext fun x => by unfold upd; split <;> simp [*]

theorem upd_cases {β} {P : β → Prop} {f : Nat → β} {a x : Nat} {b : β} (h : P (upd f a b x)) :
    (x = a ∧ P b) ∨ (x ≠ a ∧ P (f x)) := by
  by_cases hx : x = a
  · subst hx; rw [upd_same] at h; exact Or.inl ⟨rfl, h⟩
  · rw [upd_other _ _ _ _ hx] at h; exact Or.inr ⟨hx, h⟩

theorem framePids_upd {st : Nat → List Frame} {t : Nat} {new : List Frame} (h : framePids new = framePids (st t)) (u : Nat) :
    framePids (upd st t new u) = framePids (st u) := by
  by_cases hu : u = t
  · subst hu; rw [upd_same, h]
  · rw [upd_other _ _ _ _ hu]

theorem PInv.of_pids {s s' : State} (inv : PInv s) (hfp : ∀ u, framePids (s'.stacks u) = framePids (s.stacks u))
    (hn : s'.nextPid = s.nextPid) (he : s'.ended = s.ended) (logLt : ∀ e ∈ s'.log, e.1 < s'.nextPid)
    (live : ∀ t f, .pub f ∈ s'.stacks t → Tracks s'.log f) (fin : ∀ r ∈ s'.ended, Tracks s'.log r.f) : PInv s' :=
  ⟨by simpa only [hfp, hn] using inv.lt, by simpa only [hfp] using inv.nodup, by simpa only [hfp] using inv.disj,
    by simpa only [he, hn] using inv.recLt, by simpa only [he, hfp] using inv.recDisj, logLt, live, fin⟩

inductive StepCtl (s s' : State) : Act → Prop
  | stack (a : Act) (t : Nat) (new : List Frame) (hst : s'.stacks = upd s.stacks t new)
      (hp : framePids new = framePids (s.stacks t))
      (hfr : ∀ g, .pub g ∈ new → ∃ g0, .pub g0 ∈ s.stacks t ∧ g0.pid = g.pid ∧ g0.dl = g.dl ∧ g0.val = g.val)
      (hn : s'.nextPid = s.nextPid) (he : s'.ended = s.ended) (hl : s'.log = s.log) : StepCtl s s' a
  | begin (t : Nat) (v : Int) (f : PubF) (hst : s'.stacks = upd s.stacks t (.pub f :: s.stacks t))
      (hpid : f.pid = s.nextPid) (hval : f.val = v) (hdl : f.dl = [])
      (hn : s'.nextPid = s.nextPid + 1) (he : s'.ended = s.ended) (hl : s'.log = s.log) : StepCtl s s' (.pubBegin t v)
  | deliver (t : Nat) (f : PubF) (rest new : List Frame) (b : Bool) (hold : s.stacks t = .pub f :: rest)
      (hk : f.k < f.h.len) (hst : s'.stacks = upd s.stacks t new)
      (hp : framePids new = f.pid :: framePids rest)
      (hfr : ∀ g, .pub g ∈ new → g = { f with k := f.k + 1, dl := f.dl ++ [readCell s.heap f.h f.k] } ∨ .pub g ∈ rest)
      (hn : s'.nextPid = s.nextPid) (he : s'.ended = s.ended)
      (hl : s'.log = (f.pid, readCell s.heap f.h f.k, f.val, b) :: s.log) : StepCtl s s' (.deliver t)
  | finish (t : Nat) (f : PubF) (rest : List Frame) (reg : List Nat) (hold : s.stacks t = .pub f :: rest)
      (hst : s'.stacks = upd s.stacks t rest)
      (hn : s'.nextPid = s.nextPid) (he : s'.ended = ⟨f, reg⟩ :: s.ended) (hl : s'.log = s.log) : StepCtl s s' (.pubEnd t)

theorem step_ctl {fixed : Bool} {grow : Nat → Nat} {s s' : State} {a : Act} (hs : step fixed grow s a = some s') :
    s.nextId ≤ s'.nextId ∧ StepCtl s s' a := by
  have quiet : s'.stacks = s.stacks → s'.nextPid = s.nextPid → s'.ended = s.ended → s'.log = s.log → StepCtl s s' a :=
    fun h1 h2 h3 h4 => .stack a 0 _ (h1.trans (upd_self _ 0).symm) rfl (fun g h => ⟨g, h, rfl, rfl, rfl⟩) h2 h3 h4
  have shuffle : ∀ t new, s'.stacks = upd s.stacks t new → framePids new = framePids (s.stacks t) →
      (∀ g, .pub g ∈ new → .pub g ∈ s.stacks t) → s'.nextPid = s.nextPid → s'.ended = s.ended → s'.log = s.log →
      StepCtl s s' a :=
    fun t new h1 hp hfr h2 h3 h4 => .stack a t new h1 hp (fun g h => ⟨g, hfr g h, rfl, rfl, rfl⟩) h2 h3 h4
  cases a with
  | subscribe t | subscribeNil t =>
    simp only [step] at hs
    split at hs <;> cases hs
    exact ⟨Nat.le_succ _, quiet rfl rfl rfl rfl⟩
  | unsubBegin t x =>
    simp only [step] at hs
    split at hs <;> cases hs
    exact ⟨Nat.le_refl _, shuffle t _ rfl rfl (fun g h => (List.mem_cons.1 h).resolve_left Frame.noConfusion) rfl rfl rfl⟩
  | unsubStep t =>
    simp only [step] at hs
    split at hs
    · next x rest hst =>
      split at hs
      · cases fixed <;> cases hs <;> exact ⟨Nat.le_refl _, quiet rfl rfl rfl rfl⟩
      · cases hs
        exact ⟨Nat.le_refl _, shuffle t rest rfl (by rw [hst]; rfl) (fun g h => by rw [hst]; exact List.mem_cons_of_mem _ h)
          rfl rfl rfl⟩
    · cases hs
  | pubBegin t v =>
    simp only [step] at hs
    split at hs <;> cases hs
    exact ⟨Nat.le_refl _, .begin t v _ rfl rfl rfl rfl rfl rfl rfl⟩
  | deliver t =>
    simp only [step] at hs
    split at hs
    · next f rest hst =>
      split at hs
      · next hk =>
        split at hs
        · cases hs
          refine ⟨Nat.le_refl _, .stack _ t _ rfl (by rw [hst]; rfl) (fun g h => ?_) rfl rfl rfl⟩
          rcases List.mem_cons.1 h with h | h
          · cases h; exact ⟨f, by rw [hst]; exact List.mem_cons_self, rfl, rfl, rfl⟩
          · exact ⟨g, by rw [hst]; exact List.mem_cons_of_mem _ h, rfl, rfl, rfl⟩
        · split at hs <;> cases hs
          · exact ⟨Nat.le_refl _, .deliver t f rest _ true hst hk rfl rfl
              (fun g h => (List.mem_cons.1 h).imp Frame.pub.inj id) rfl rfl rfl⟩
          · exact ⟨Nat.le_refl _, .deliver t f rest _ false hst hk rfl rfl
              (fun g h => (List.mem_cons.1 ((List.mem_cons.1 h).resolve_left Frame.noConfusion)).imp Frame.pub.inj id)
              rfl rfl rfl⟩
      · cases hs
    · cases hs
  | cbReturn t =>
    simp only [step] at hs
    split at hs
    · next rest hst =>
      cases hs
      exact ⟨Nat.le_refl _, shuffle t rest rfl (by rw [hst]; rfl) (fun g h => by rw [hst]; exact List.mem_cons_of_mem _ h)
        rfl rfl rfl⟩
    · cases hs
  | pubEnd t =>
    simp only [step] at hs
    split at hs
    · next f rest hst =>
      split at hs <;> cases hs
      exact ⟨Nat.le_refl _, .finish t f rest _ hst rfl rfl rfl rfl⟩
    · cases hs
  | setSubOn t b =>
    simp only [step] at hs
    split at hs <;> cases hs
    exact ⟨Nat.le_refl _, quiet rfl rfl rfl rfl⟩
  | hrun t =>
    simp only [step] at hs
    split at hs
    · next m rest hst hmb =>
      cases hs
      exact ⟨Nat.le_refl _, shuffle t _ rfl (by rw [hst]; rfl) (fun g h => by simp at h) rfl rfl rfl⟩
    · cases hs

theorem PInv_init : PInv init := by
  refine ⟨?_, ?_, ?_, ?_, ?_, ?_, ?_, ?_⟩ <;> intros <;> simp_all [init, framePids]

theorem PInv_ctl {s s' : State} {a : Act} (inv : PInv s) (c : StepCtl s s' a) : PInv s' := by
  cases c with
  | stack a t new hst hp hfr hn he hl =>
    refine inv.of_pids (fun u => by rw [hst]; exact framePids_upd hp u) hn he (by rw [hl, hn]; exact inv.logLt) ?_
      (by rw [he, hl]; exact inv.fin)
    intro u f h
    rw [hl]
    rw [hst] at h
    rcases upd_cases (P := (Frame.pub f ∈ ·)) h with ⟨rfl, h1⟩ | ⟨_, h1⟩
    · obtain ⟨g0, hg0, hp0, hd0, hv0⟩ := hfr f h1
      exact (inv.live u g0 hg0).congr hp0 hd0 hv0
    · exact inv.live u f h1
  | begin t v f hst hpid hval hdl hn he hl =>
    have hmem : ∀ u p, p ∈ framePids (s'.stacks u) → (u = t ∧ p = s.nextPid) ∨ p ∈ framePids (s.stacks u) := by
      intro u p h
      rw [hst] at h
      rcases upd_cases (P := (p ∈ framePids ·)) h with ⟨rfl, h1⟩ | ⟨_, h1⟩
      · exact (List.mem_cons.1 h1).imp (fun h1 => ⟨rfl, h1.trans hpid⟩) id
      · exact Or.inr h1
    refine ⟨?_, ?_, ?_, ?_, ?_, ?_, ?_, ?_⟩
    · intro u p h
      rcases hmem u p h with ⟨_, hp⟩ | h1
      · omega
      · have := inv.lt u p h1; omega
    · intro u
      rw [hst]
      by_cases hu : u = t
      · subst hu; rw [upd_same]
        exact List.nodup_cons.2 ⟨fun h => Nat.lt_irrefl _ (hpid ▸ inv.lt u _ h), inv.nodup u⟩
      · rw [upd_other _ _ _ _ hu]; exact inv.nodup u
    · intro u w huw p h h'
      rcases hmem u p h with ⟨hu, hp⟩ | h1 <;> rcases hmem w p h' with ⟨hw, hp'⟩ | h2
      · exact huw (hu.trans hw.symm)
      · have := inv.lt w p h2; omega
      · have := inv.lt u p h1; omega
      · exact inv.disj u w huw p h1 h2
    · intro r h; rw [he] at h; have := inv.recLt r h; omega
    · intro r h u h'
      rw [he] at h
      rcases hmem u _ h' with ⟨_, hp⟩ | h1
      · have := inv.recLt r h; omega
      · exact inv.recDisj r h u h1
    · intro e h; rw [hl] at h; have := inv.logLt e h; omega
    · intro u g h
      rw [hl]
      rw [hst] at h
      rcases upd_cases (P := (Frame.pub g ∈ ·)) h with ⟨rfl, h1⟩ | ⟨_, h1⟩
      · rcases List.mem_cons.1 h1 with h1 | h1
        · cases h1; exact tracks_fresh (hpid ▸ inv.logLt) hdl
        · exact inv.live u g h1
      · exact inv.live u g h1
    · intro r h; rw [he] at h; rw [hl]; exact inv.fin r h
  | deliver t f rest new b hold hk hst hp hfr hn he hl =>
    have hpids : framePids (s.stacks t) = f.pid :: framePids rest := by rw [hold]; rfl
    have hnd := inv.nodup t
    rw [hpids, List.nodup_cons] at hnd
    have hft : .pub f ∈ s.stacks t := by rw [hold]; exact List.mem_cons_self
    refine inv.of_pids (fun u => by rw [hst]; exact framePids_upd (hp.trans hpids.symm) u) hn he ?_ ?_ ?_
    · intro e h; rw [hl] at h; rw [hn]
      rcases List.mem_cons.1 h with rfl | h
      · exact inv.lt t f.pid (mem_framePids hft)
      · exact inv.logLt e h
    · intro u g h
      rw [hl]
      rw [hst] at h
      -- every other frame, on this stack or another, has another call id
      rcases upd_cases (P := (Frame.pub g ∈ ·)) h with ⟨rfl, h1⟩ | ⟨hu, h1⟩
      · rcases hfr g h1 with rfl | hg
        · exact (inv.live u f hft).cons_self _ b
        · exact (inv.live u g (hold ▸ List.mem_cons_of_mem _ hg)).cons_other fun e => hnd.1 (e ▸ mem_framePids hg)
      · exact (inv.live u g h1).cons_other fun e =>
          inv.disj t u (Ne.symm hu) f.pid (mem_framePids hft) (e ▸ mem_framePids h1)
    · intro r h; rw [he] at h; rw [hl]
      exact (inv.fin r h).cons_other fun e => inv.recDisj r h t (by rw [hpids, e]; exact List.mem_cons_self)
  | finish t f rest reg hold hst hn he hl =>
    have hpids : framePids (s.stacks t) = f.pid :: framePids rest := by rw [hold]; rfl
    have hnd := inv.nodup t
    rw [hpids, List.nodup_cons] at hnd
    have hft : .pub f ∈ s.stacks t := by rw [hold]; exact List.mem_cons_self
    have hsub : ∀ u p, p ∈ framePids (s'.stacks u) → p ∈ framePids (s.stacks u) := by
      intro u p h
      rw [hst] at h
      rcases upd_cases (P := (p ∈ framePids ·)) h with ⟨rfl, h1⟩ | ⟨_, h1⟩
      · rw [hpids]; exact List.mem_cons_of_mem _ h1
      · exact h1
    refine ⟨?_, ?_, ?_, ?_, ?_, ?_, ?_, ?_⟩
    · intro u p h; rw [hn]; exact inv.lt u p (hsub u p h)
    · intro u
      rw [hst]
      by_cases hu : u = t
      · subst hu; rw [upd_same]; exact hnd.2
      · rw [upd_other _ _ _ _ hu]; exact inv.nodup u
    · intro u w huw p h h'
      exact inv.disj u w huw p (hsub u p h) (hsub w p h')
    · intro r h
      rw [he] at h; rw [hn]
      rcases List.mem_cons.1 h with rfl | h
      · exact inv.lt t f.pid (mem_framePids hft)
      · exact inv.recLt r h
    · intro r h u h'
      rw [he] at h
      rcases List.mem_cons.1 h with rfl | h
      · rw [hst] at h'
        rcases upd_cases (P := (f.pid ∈ framePids ·)) h' with ⟨_, h1⟩ | ⟨hu, h1⟩
        · exact hnd.1 h1
        · exact inv.disj t u (Ne.symm hu) f.pid (mem_framePids hft) h1
      · exact inv.recDisj r h u (hsub u _ h')
    · intro e h; rw [hl] at h; rw [hn]; exact inv.logLt e h
    · intro u g h
      rw [hl]
      rw [hst] at h
      rcases upd_cases (P := (Frame.pub g ∈ ·)) h with ⟨rfl, h1⟩ | ⟨_, h1⟩
      · exact inv.live u g (hold ▸ List.mem_cons_of_mem _ h1)
      · exact inv.live u g h1
    · intro r h
      rw [he] at h; rw [hl]
      rcases List.mem_cons.1 h with rfl | h
      · exact inv.live t f hft
      · exact inv.fin r h

theorem PInv_step (fixed : Bool) (grow : Nat → Nat) {s s' : State} (a : Act) (inv : PInv s)
    (hs : step fixed grow s a = some s') : PInv s' :=
  PInv_ctl inv (step_ctl hs).2

theorem PInv_reach (grow : Nat → Nat) {s : State} (r : Reach grow s) : PInv s := by
  induction r with
  | init => exact PInv_init
  | step a _ hs ih => exact PInv_step true grow a ih hs

theorem count_dlOf (log : List (Nat × Nat × Int × Bool)) (p x : Nat) :
    (dlOf log p).count x = (log.filter (fun e => e.1 = p ∧ e.2.1 = x)).length := by
  unfold dlOf
  rw [List.count_reverse, List.count_eq_countP, List.countP_map, List.countP_eq_length_filter, List.filter_filter]
  congr 1
  apply List.filter_congr
  intro e _
  by_cases h1 : e.2.1 = x <;> simp [h1]

theorem step_log {fixed : Bool} {grow : Nat → Nat} {s s' : State} {a : Act} (hs : step fixed grow s a = some s') :
    s.nextId ≤ s'.nextId ∧ s.nextPid ≤ s'.nextPid ∧
    (s'.log = s.log ∨ ∃ t f rest b, s.stacks t = .pub f :: rest ∧ f.k < f.h.len ∧
      s'.log = (f.pid, readCell s.heap f.h f.k, f.val, b) :: s.log) := by
  refine ⟨(step_ctl hs).1, ?_⟩
  cases (step_ctl hs).2 with
  | stack _ _ _ _ _ _ hn _ hl => exact ⟨Nat.le_of_eq hn.symm, Or.inl hl⟩
  | begin _ _ _ _ _ _ _ hn _ hl => exact ⟨hn ▸ Nat.le_succ _, Or.inl hl⟩
  | deliver t f rest _ b hold hk _ _ _ hn _ hl => exact ⟨Nat.le_of_eq hn.symm, Or.inr ⟨t, f, rest, b, hold, hk, hl⟩⟩
  | finish _ _ _ _ _ _ hn _ hl => exact ⟨Nat.le_of_eq hn.symm, Or.inl hl⟩

theorem log_sid_lt (grow : Nat → Nat) {s : State} (r : Reach grow s) : ∀ e ∈ s.log, 0 < e.2.1 ∧ e.2.1 < s.nextId := by
  induction r with
  | init => intro e h; simp [init] at h
  | @step s s' a hr hs ih =>
    obtain ⟨hn, _, hl⟩ := step_log hs
    have old : ∀ e ∈ s.log, 0 < e.2.1 ∧ e.2.1 < s'.nextId := fun e h => ⟨(ih e h).1, Nat.lt_of_lt_of_le (ih e h).2 hn⟩
    rcases hl with hl | ⟨t, f, rest, b, hst, hk, hl⟩ <;> rw [hl]
    · exact old
    · refine List.forall_mem_cons.2 ⟨?_, old⟩
      have ok : PubOK s.heap s.subs s.nextId s.silent f :=
        (Inv_reach grow hr).frames t (.pub f) (by rw [hst]; exact List.mem_cons_self)
      have hmem : readCell s.heap f.h f.k ∈ f.snap.take (f.k + 1) := by
        rw [readCell_of_content ok.same hk ok.len]; exact List.mem_append_right _ List.mem_cons_self
      have h2 := ok.static.old _ (List.mem_of_mem_take hmem)
      have := ok.n0_le
      show 0 < readCell s.heap f.h f.k ∧ readCell s.heap f.h f.k < s'.nextId
      omega

theorem frames_step {fixed : Bool} {grow : Nat → Nat} {s s' : State} {a : Act} (hs : step fixed grow s a = some s') :
    ∀ u f', .pub f' ∈ s'.stacks u →
      (∃ f, .pub f ∈ s.stacks u ∧ f.pid = f'.pid ∧ f.val = f'.val) ∨
      (f'.pid = s.nextPid ∧ a = .pubBegin u f'.val) := by
  intro u f' hm
  cases (step_ctl hs).2 with
  | stack _ t new hst _ hfr =>
    rw [hst] at hm
    rcases upd_cases (P := (Frame.pub f' ∈ ·)) hm with ⟨rfl, h⟩ | ⟨_, h⟩
    · obtain ⟨g0, hg0, hp, _, hv⟩ := hfr f' h
      exact Or.inl ⟨g0, hg0, hp, hv⟩
    · exact Or.inl ⟨f', h, rfl, rfl⟩
  | begin t v f hst hpid hval =>
    rw [hst] at hm
    rcases upd_cases (P := (Frame.pub f' ∈ ·)) hm with ⟨rfl, h⟩ | ⟨_, h⟩
    · rcases List.mem_cons.1 h with h | h
      · cases h; exact Or.inr ⟨hpid, by rw [hval]⟩
      · exact Or.inl ⟨f', h, rfl, rfl⟩
    · exact Or.inl ⟨f', h, rfl, rfl⟩
  | deliver t f rest new _ hold _ hst _ hfr =>
    rw [hst] at hm
    rcases upd_cases (P := (Frame.pub f' ∈ ·)) hm with ⟨rfl, h⟩ | ⟨_, h⟩
    · rcases hfr f' h with rfl | h
      · exact Or.inl ⟨f, by rw [hold]; exact List.mem_cons_self, rfl, rfl⟩
      · exact Or.inl ⟨f', by rw [hold]; exact List.mem_cons_of_mem _ h, rfl, rfl⟩
    · exact Or.inl ⟨f', h, rfl, rfl⟩
  | finish t f rest _ hold hst =>
    rw [hst] at hm
    rcases upd_cases (P := (Frame.pub f' ∈ ·)) hm with ⟨rfl, h⟩ | ⟨_, h⟩
    · exact Or.inl ⟨f', by rw [hold]; exact List.mem_cons_of_mem _ h, rfl, rfl⟩
    · exact Or.inl ⟨f', h, rfl, rfl⟩

theorem ended_step {fixed : Bool} {grow : Nat → Nat} {s s' : State} {a : Act} (hs : step fixed grow s a = some s') :
    ∀ r ∈ s'.ended, r ∈ s.ended ∨ ∃ u, .pub r.f ∈ s.stacks u := by
  intro r hm
  cases (step_ctl hs).2 with
  | stack _ _ _ _ _ _ _ he => exact Or.inl (he ▸ hm)
  | begin _ _ _ _ _ _ _ _ he => exact Or.inl (he ▸ hm)
  | deliver _ _ _ _ _ _ _ _ _ _ _ he => exact Or.inl (he ▸ hm)
  | finish t f rest _ hold _ _ he =>
    rw [he] at hm
    rcases List.mem_cons.1 hm with rfl | h
    · exact Or.inr ⟨t, by rw [hold]; exact List.mem_cons_self⟩
    · exact Or.inl h

def summary (o : Option State) : Option (List Nat × List Nat × List Nat) :=
  o.bind (fun s => s.ended.head?.map (fun r => (r.f.snap, r.f.dl, r.regEnd)))

theorem summary_some {o : Option State} {a b c : List Nat} (h : summary o = some (a, b, c)) :
    ∃ s r, o = some s ∧ r ∈ s.ended ∧ r.f.snap = a ∧ r.f.dl = b ∧ r.regEnd = c := by
  cases o with
  | none => cases h
  | some s =>
    cases hs : s.ended with
    | nil => simp [summary, hs] at h
    | cons r rest =>
      simp only [summary, Option.bind_some, hs, List.head?_cons, Option.map_some, Option.some.injEq, Prod.mk.injEq] at h
      exact ⟨s, r, rfl, by rw [hs]; exact List.mem_cons_self, h⟩

end FpgoVerif.C10
