import FpgoVerif.Gen.Skeletons
/-! C08: the protocol skeletons of the six wrapper methods, looked up in `Gen.skeletons`.  `Props/C08.lean` states
    every lookup on its own, as a clause of `wrapper_skeletons`; that is one declaration so that the kernel evaluates
    each key of the table once for all six. -/
namespace FpgoVerif.C08

/-- lookup in the generated table: `find?` walks down the table, `String.reduceBEq` decides each key comparison on
    the literals, and the entry found is the expected literal itself, so no value is ever compared -/
scoped macro "lookup" : tactic =>
  `(tactic| simp only [Gen.skeletonOf, Gen.skeletons, List.find?, String.reduceBEq, Option.map_some, and_self])

theorem wrapper_skeletons :
    Gen.skeletonOf "ConcurrentQueue.Put" =
      some "call(lock.Lock) defer{call(lock.Unlock)} call(queue.Put) return" ∧
    Gen.skeletonOf "ConcurrentQueue.Offer" =
      some "call(lock.Lock) defer{call(lock.Unlock)} call(queue.Offer) return" ∧
    Gen.skeletonOf "ConcurrentQueue.Take" =
      some "call(lock.Lock) defer{call(lock.Unlock)} call(queue.Take) return" ∧
    Gen.skeletonOf "ConcurrentQueue.Poll" =
      some "call(lock.Lock) defer{call(lock.Unlock)} call(queue.Poll) return" ∧
    Gen.skeletonOf "ConcurrentStack.Push" =
      some "call(lock.Lock) defer{call(lock.Unlock)} call(stack.Push) return" ∧
    Gen.skeletonOf "ConcurrentStack.Pop" =
      some "call(lock.Lock) defer{call(lock.Unlock)} call(stack.Pop) return" := by lookup

end FpgoVerif.C08
