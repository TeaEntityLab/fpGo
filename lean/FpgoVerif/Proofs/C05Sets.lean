import FpgoVerif.Proofs.C05Lists
/-! C05 — the map functions: deletion loops, Merge, IntersectionMapByKey, IsSubsetMapByKey. -/
namespace FpgoVerif.C05
variable {κ ν : Type} [DecidableEq κ]

section Del
variable {μ : Type} (L : List (κ × μ)) (c : κ × μ → Prop) [DecidablePred c] (r : GoMap κ ν)

theorem mget_foldl_del (k : κ) :
    mget (L.foldl (fun r p => if c p then mdel r p.1 else r) r) k =
      if ∀ p ∈ L, c p → p.1 ≠ k then mget r k else none := by
  induction L generalizing r with
  | nil => simp
  | cons q L ih =>
    rw [List.foldl_cons, ih]
    by_cases hc : c q
    · by_cases hk : q.1 = k
      · simp only [hc, hk, if_true, mget_mdel, List.forall_mem_cons, ne_eq, not_true_eq_false, imp_false,
          false_and, if_false, ite_self]
      · simp only [hc, hk, if_true, if_false, mget_mdel, List.forall_mem_cons, ne_eq, not_false_eq_true,
          implies_true, true_and]
    · simp only [hc, if_false, List.forall_mem_cons, false_imp_iff, true_and]

theorem mem_mkeys_foldl_del (k : κ) :
    k ∈ mkeys (L.foldl (fun r p => if c p then mdel r p.1 else r) r) ↔
      k ∈ mkeys r ∧ ∀ p ∈ L, c p → p.1 ≠ k := by
  rw [← mget_isSome_iff, mget_foldl_del, ← mget_isSome_iff]
  split
  · exact (and_iff_left ‹_›).symm
  · exact ⟨nofun, fun h => absurd h.2 ‹_›⟩

theorem nodup_mkeys_foldl_del (h : (mkeys r).Nodup) :
    (mkeys (L.foldl (fun r p => if c p then mdel r p.1 else r) r)).Nodup :=
  List.foldlRecOn (motive := fun r => (mkeys r).Nodup) L _ h fun r hr q _ => by
    split
    · exact nodup_mkeys_mdel r q.1 hr
    · exact hr

end Del

theorem nodup_mkeys_merge (m1 m2 : GoMap κ ν) : (mkeys (merge m1 m2)).Nodup :=
  nodup_mkeys_mcopyInto _ _ (nodup_mkeys_mcopyInto _ _ List.nodup_nil)

theorem mget_merge (m1 m2 : GoMap κ ν) (h1 : (mkeys m1).Nodup) (h2 : (mkeys m2).Nodup) (k : κ) :
    mget (merge m1 m2) k = (mget m2 k).or (mget m1 k) := by
  rw [merge, mcopyInto_eq_append [] m1 h1, mget_mcopyInto _ _ h2]; rfl

/-! The two accumulators of the counting pass of IntersectionMapByKey do not depend on each other, and the nested
    loops visit the entries of all operands in sequence: the pass is two loops over `ms.flatten`. -/

/-- `countMap[k]++` -/
def bump (c : GoMap κ Nat) (p : κ × ν) : GoMap κ Nat := mset c p.1 ((mget c p.1).getD 0 + 1)

theorem foldl_imkCount (ms : List (GoMap κ ν)) (a : GoMap κ ν × GoMap κ Nat) :
    ms.foldl imkCount a = (ms.flatten.foldl putNew a.1, ms.flatten.foldl bump a.2) := by
  have inner (mi : GoMap κ ν) (a : GoMap κ ν × GoMap κ Nat) :
      imkCount a mi = (mi.foldl putNew a.1, mi.foldl bump a.2) := by
    induction mi generalizing a with
    | nil => rfl
    | cons p t ih => exact ih _
  induction ms generalizing a with
  | nil => rfl
  | cons m ms ih => rw [List.foldl_cons, ih, inner, List.flatten_cons, List.foldl_append, List.foldl_append]

theorem mget_foldl_bump (L : GoMap κ ν) (c : GoMap κ Nat) (k : κ) :
    mget (L.foldl bump c) k =
      if k ∈ mkeys L then some ((mget c k).getD 0 + (mkeys L).count k) else mget c k := by
  induction L generalizing c with
  | nil => rfl
  | cons p t ih =>
    rw [List.foldl_cons, ih, bump, mget_mset]
    simp only [mkeys_cons, List.mem_cons, List.count_cons, beq_iff_eq]
    by_cases hk : p.1 = k
    · subst hk
      by_cases ht : p.1 ∈ mkeys t
      · simp [ht]; omega
      · simp [ht, List.count_eq_zero.2 ht]
    · simp [hk, Ne.symm hk]

theorem nodup_mkeys_foldl_bump (L : GoMap κ ν) : (mkeys (L.foldl bump [])).Nodup :=
  List.foldlRecOn (motive := fun c => (mkeys c).Nodup) L bump List.nodup_nil fun c hc p _ =>
    nodup_mkeys_mset c p.1 _ hc

theorem count_mkeys_flatten (ms : List (GoMap κ ν)) (hms : ∀ m ∈ ms, (mkeys m).Nodup) (k : κ) :
    (mkeys ms.flatten).count k = ms.countP (fun m => mhas m k) := by
  induction ms with
  | nil => rfl
  | cons m ms ih =>
    rw [List.flatten_cons, mkeys, List.map_append, List.count_append, List.countP_cons, Nat.add_comm,
      ← mkeys, ← mkeys, ih fun m' h => hms m' (List.mem_cons_of_mem _ h),
      (hms m List.mem_cons_self).count]
    simp only [mhas_iff]

/-- the code runs this pass for two or more operands; it is correct for one as well -/
theorem mem_mkeys_countingPass (ms : List (GoMap κ ν)) (hne : ms ≠ [])
    (hms : ∀ m ∈ ms, (mkeys m).Nodup) (k : κ) :
    k ∈ mkeys ((ms.foldl imkCount ([], [])).2.foldl (fun r p => if p.2 < ms.length then mdel r p.1 else r)
      (ms.foldl imkCount ([], [])).1) ↔ ∀ m ∈ ms, k ∈ mkeys m := by
  -- the count stored for `k`, if any, is the number of operands that have `k`
  have hC (v : Nat) : (k, v) ∈ ms.flatten.foldl bump [] ↔
      k ∈ mkeys ms.flatten ∧ ms.countP (fun m => mhas m k) = v := by
    rw [mem_iff_mget _ (nodup_mkeys_foldl_bump _), mget_foldl_bump, count_mkeys_flatten ms hms]
    split <;> simp [*, mget]
  have hk : k ∈ mkeys ms.flatten ↔ 0 < ms.countP (fun m => mhas m k) := by
    rw [← count_mkeys_flatten ms hms, List.count_pos_iff]
  have hall : (∀ m ∈ ms, k ∈ mkeys m) ↔ ms.countP (fun m => mhas m k) = ms.length := by
    simp only [List.countP_eq_length, mhas_iff]
  have hle : ms.countP (fun m => mhas m k) ≤ ms.length := List.countP_le_length
  have hlen : 0 < ms.length := List.length_pos_iff.2 hne
  rw [foldl_imkCount, mem_mkeys_foldl_del, mem_mkeys_foldl_putNew, hall]
  constructor
  · rintro ⟨hr | hr, hdel⟩
    · cases hr
    · have := hdel _ ((hC _).2 ⟨hr, rfl⟩)
      simp only [ne_eq, not_true_eq_false, imp_false] at this
      omega
  · intro hall
    refine ⟨Or.inr (hk.2 (by omega)), ?_⟩
    rintro ⟨_, v⟩ hp hlt rfl
    have := ((hC v).1 hp).2
    simp only at hlt
    omega

theorem mem_mkeys_intersectionMapByKey (ms : List (GoMap κ ν)) (hne : ms ≠ [])
    (hms : ∀ m ∈ ms, (mkeys m).Nodup) (k : κ) :
    k ∈ mkeys (intersectionMapByKey ms) ↔ ∀ m ∈ ms, k ∈ mkeys m := by
  match ms, hne with
  | [m], _ => rw [intersectionMapByKey, mem_mkeys_mcopyInto]; simp [mkeys]
  | m1 :: m2 :: rest, hne => exact mem_mkeys_countingPass _ hne hms k

theorem nodup_mkeys_intersectionMapByKey (ms : List (GoMap κ ν)) : (mkeys (intersectionMapByKey ms)).Nodup := by
  match ms with
  | [] => exact List.nodup_nil
  | [m] => exact nodup_mkeys_mcopyInto _ _ List.nodup_nil
  | m1 :: m2 :: rest =>
    simp only [intersectionMapByKey, foldl_imkCount]
    exact nodup_mkeys_foldl_del _ _ _ (nodup_mkeys_foldl_putNew _ _ List.nodup_nil)

theorem mget_intersection2 (m i : GoMap κ ν) (hm : (mkeys m).Nodup) (hi : (mkeys i).Nodup) (k : κ) :
    mget (intersectionMapByKey [m, i]) k = if mhas i k then mget m k else none := by
  have hkeys : k ∈ mkeys (intersectionMapByKey [m, i]) ↔ k ∈ mkeys m ∧ k ∈ mkeys i := by
    rw [mem_mkeys_intersectionMapByKey [m, i] (by simp) (by simp [hm, hi])]; simp
  by_cases h : k ∈ mkeys (intersectionMapByKey [m, i])
  · obtain ⟨h1, h2⟩ := hkeys.1 h
    simp only [intersectionMapByKey, foldl_imkCount] at h ⊢
    rw [mget_foldl_del, if_pos ((mem_mkeys_foldl_del _ _ _ k).1 h).2, mget_foldl_putNew, (mhas_iff i k).2 h2]
    simp [mget_append, mget, Option.or_of_isSome ((mget_isSome_iff m k).2 h1)]
  · rw [(mget_none_iff _ k).2 h]
    split
    · exact ((mget_none_iff m k).2 fun h1 => h (hkeys.2 ⟨h1, (mhas_iff i k).1 ‹_›⟩)).symm
    · rfl

theorem isSubsetMapByKey_empty (a b : GoMap κ ν) (h : a = [] ∨ b = []) : isSubsetMapByKey a b = false := by
  rcases h with h | h <;> simp [isSubsetMapByKey, h]

end FpgoVerif.C05
