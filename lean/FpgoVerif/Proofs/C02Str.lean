import FpgoVerif.Proofs.C02Int
/-! C02 — string sources: `strconv.ParseInt` / `ParseUint` / `Atoi` then a cast for integer targets,
    `strconv.ParseFloat` for float targets.  `strconv` is a *contract parameter*: the contract is what the
    documentation promises, and the theorems hold for every `Strconv` that satisfies it (the real one is assumed to;
    `goStrconv`, the function the driver runs, is proved to). -/
namespace FpgoVerif.C02

def parseRange : Src → Option (Int × Int)
  | .parseInt bits => some (-((2 ^ (bits - 1) : Nat) : Int), ((2 ^ (bits - 1) : Nat) : Int) - 1)
  | .atoi => some (-((2 ^ (64 - 1) : Nat) : Int), ((2 ^ (64 - 1) : Nat) : Int) - 1)
  | .parseUint bits => some (0, ((2 ^ bits : Nat) : Int) - 1)
  | _ => none

def isUnsignedParse : Src → Bool
  | .parseUint _ => true
  | _ => false

def guardCovers (l h : Option Int) (plo phi : Int) : Bool :=
  (match l with | none => true | some c => decide (c ≤ plo)) &&
  (match h with | none => true | some c => decide (phi ≤ c))

theorem guardCovers_pass {l h : Option Int} {plo phi : Int} (hc : guardCovers l h plo phi = true) (z : Int)
    (h1 : plo ≤ z) (h2 : z ≤ phi) : passB l h z = true := by
  unfold guardCovers at hc
  cases l <;> cases h <;> simp [passB] at hc ⊢ <;> omega

def strIntBodyOK (tgt : Ty) (body : Body) : Bool :=
  match tgt.range, tgt.must with
  | some (lo, hi), some (mlo, mhi) =>
    let okSrc (s : Src) : Bool :=
      match parseRange s with
      | some (plo, phi) =>
        -- whatever parses fits the target (so the cast is the identity); whatever must succeed parses
        decide (lo ≤ plo ∧ phi ≤ hi) && decide (plo ≤ mlo ∧ mhi ≤ phi) && (isUnsignedParse s == !isSigned tgt)
      | none => false
    match body with
    | .bind s none ⟨.cast t .v, .fromCall⟩ _ => t == tgt && okSrc s
    | .direct s => okSrc s
    | .bind s (some g) ⟨.cast t .v, .fromCall⟩ (some ⟨_, .overflow⟩) =>
      -- a guard after the parse that every value the parse call can return (results, clamped bounds, 0) passes
      t == tgt && okSrc s &&
      (match parseRange s, intBounds g with
       | some (plo, phi), some (l, h) => decide (plo ≤ 0 ∧ 0 ≤ phi) && guardCovers l h plo phi
       | _, _ => false)
    | _ => false
  | _, _ => false

def parseCall (sc : Strconv) (s : Src) (w : String) : Res :=
  match s with
  | .parseInt bits => sc.parseInt bits w
  | .parseUint bits => sc.parseUint bits w
  | .atoi => sc.atoi w
  | _ => Res.garbage

/-- Documented contract of `strconv.ParseInt(w, 10, bits)`, `ParseUint(w, 10, bits)`, `Atoi(w)`, for a call with
    accepted range `[plo, phi]`:
    * a nil error comes with the value of the integer numeral `w`, which lies in the range;
    * an error comes with 0 (syntax) or the nearest bound (range);
    * an integer numeral in the range is accepted — by `ParseUint` only when it is a plain digit string (no sign). -/
def ParseIntContract (sc : Strconv) : Prop :=
  ∀ (s : Src) (plo phi : Int), parseRange s = some (plo, phi) → ∀ w : String,
    ((parseCall sc s w).err = .ok → ∃ z, intSyntax w = some z ∧ (parseCall sc s w).val = .i z ∧ plo ≤ z ∧ z ≤ phi) ∧
    ((parseCall sc s w).err ≠ .ok → (parseCall sc s w).err = .other ∧
      ((parseCall sc s w).val = .i 0 ∨ (parseCall sc s w).val = .i plo ∨ (parseCall sc s w).val = .i phi)) ∧
    (∀ z, intSyntax w = some z → plo ≤ z → z ≤ phi →
      (isUnsignedParse s = false ∨ digitsVal w.toList = some z.toNat) → parseCall sc s w = ⟨.i z, .ok⟩)

def ParseOK (unsigned : Bool) (plo phi : Int) (w : String) (r : Res) : Prop :=
  (r.err = .ok → ∃ z, intSyntax w = some z ∧ r.val = .i z ∧ plo ≤ z ∧ z ≤ phi) ∧
  (r.err ≠ .ok → r.err = .other ∧ (r.val = .i 0 ∨ r.val = .i plo ∨ r.val = .i phi)) ∧
  (∀ z, intSyntax w = some z → plo ≤ z → z ≤ phi → (unsigned = false ∨ digitsVal w.toList = some z.toNat) →
    r = ⟨.i z, .ok⟩)

theorem callOf_parse {s : Src} {p : Int × Int} (hp : parseRange s = some p) (sc : Strconv) (tbl : List Case) (n : Nat)
    (k : Kind) (w : String) : callOf sc tbl n k (.s w) s = parseCall sc s w := by
  cases s <;> first | rfl | cases hp

theorem digitsVal_nonDigit (c : Char) (cs : List Char) (h : c.isDigit = false) : digitsVal (c :: cs) = none := by
  simp only [digitsVal, List.foldl, h]
  -- once the accumulator is `none` it stays `none`
  induction cs with
  | nil => rfl
  | cons c cs ih => simpa [List.foldl] using ih

theorem digitsVal_intSyntax (w : String) (n : Nat) (h : digitsVal w.toList = some n) : intSyntax w = some (n : Int) := by
  unfold intSyntax
  split
  · rename_i cs heq
    rw [heq, digitsVal_nonDigit '+' cs (by decide)] at h; cases h
  · rename_i cs heq
    rw [heq, digitsVal_nonDigit '-' cs (by decide)] at h; cases h
  · simp [h]

theorem canon_unsigned (w : String) (z : Int) (hc : canonicalInt false w = true) (hs : intSyntax w = some z) :
    digitsVal w.toList = some z.toNat := by
  unfold canonicalInt at hc
  unfold intSyntax at hs
  split at hs
  · rename_i cs heq
    rw [heq] at hc
    simp [allDigits] at hc
  · rename_i cs heq
    rw [heq] at hc
    simp at hc
  · cases hd : digitsVal w.toList with
    | none => simp [hd] at hs
    | some n => simp [hd] at hs; subst hs; simp

theorem specStr_int_of {tgt : Ty} {lo hi mlo mhi : Int} {w : String} {r : Res} (hr : tgt.range = some (lo, hi))
    (hm : tgt.must = some (mlo, mhi))
    (ha : r.err = .ok → ∃ z, intSyntax w = some z ∧ r.val = .i z ∧ lo ≤ z ∧ z ≤ hi)
    (hb : mustStr (isSigned tgt) mlo mhi w = true → r.err = .ok) : specStr tgt w r = true := by
  simp only [specStr, hr, hm, Bool.and_eq_true, Bool.or_eq_true, bne_iff_ne, ne_eq, beq_iff_eq,
    Bool.not_eq_true', ← Decidable.imp_iff_not_or]
  refine ⟨fun he => ?_, by rwa [← Bool.not_eq_true, ← Decidable.imp_iff_not_or]⟩
  obtain ⟨z, h1, h2, h3⟩ := ha he
  simp [h1, h2, h3]

/-- both `return T(val), err` and `return val, err` satisfy the Spec -/
theorem okSrc_sound (sc : Strconv) (hc : ParseIntContract sc) (tgt : Ty) (lo hi mlo mhi : Int)
    (hr : tgt.range = some (lo, hi)) (hm : tgt.must = some (mlo, mhi)) (s : Src) (w : String)
    (hok : (match parseRange s with
      | some (plo, phi) =>
        decide (lo ≤ plo ∧ phi ≤ hi) && decide (plo ≤ mlo ∧ mhi ≤ phi) && (isUnsignedParse s == !isSigned tgt)
      | none => false) = true) :
    ∃ plo phi, parseRange s = some (plo, phi) ∧
      specStr tgt w ⟨castTo tgt (parseCall sc s w).val, (parseCall sc s w).err⟩ = true ∧
      specStr tgt w (parseCall sc s w) = true := by
  split at hok
  case h_2 => cases hok
  case h_1 plo phi hp =>
  simp only [Bool.and_eq_true, decide_eq_true_eq, beq_iff_eq] at hok
  obtain ⟨⟨hsub1, hsub2⟩, hu⟩ := hok
  obtain ⟨P1, _, P3⟩ := hc s plo phi hp w
  generalize parseCall sc s w = r0 at P1 P3
  have hb : mustStr (isSigned tgt) mlo mhi w = true → r0.err = .ok := by
    intro h
    simp only [mustStr, Bool.and_eq_true] at h
    obtain ⟨hcan, hz⟩ := h
    split at hz
    case h_2 => cases hz
    case h_1 z hs =>
    have hz := of_decide_eq_true hz
    rw [P3 z hs (by omega) (by omega) (by
      cases hsg : isSigned tgt with
      | true => exact .inl (by rw [hu, hsg]; rfl)
      | false => exact .inr (canon_unsigned w z (hsg ▸ hcan) hs))]
  have ha : r0.err = .ok → ∃ z, intSyntax w = some z ∧ r0.val = .i z ∧ lo ≤ z ∧ z ≤ hi := fun he =>
    let ⟨z, h1, h2, h3, h4⟩ := P1 he
    ⟨z, h1, h2, by omega, by omega⟩
  refine ⟨plo, phi, hp, specStr_int_of hr hm (fun he => ?_) hb, specStr_int_of hr hm ha hb⟩
  obtain ⟨z, h1, h2, h3, h4⟩ := ha he
  exact ⟨z, h1, by rw [h2]; exact castTo_int_of_mem hr h3 h4, h3, h4⟩

theorem parseCall_val (sc : Strconv) (hc : ParseIntContract sc) (s : Src) (plo phi : Int)
    (hp : parseRange s = some (plo, phi)) (h0 : plo ≤ 0 ∧ 0 ≤ phi) (w : String) :
    ∃ v, (parseCall sc s w).val = .i v ∧ plo ≤ v ∧ v ≤ phi := by
  obtain ⟨P1, P2, _⟩ := hc s plo phi hp w
  by_cases he : (parseCall sc s w).err = .ok
  · obtain ⟨z, _, hz, h1, h2⟩ := P1 he
    exact ⟨z, hz, h1, h2⟩
  · rcases (P2 he).2 with hv | hv | hv
    · exact ⟨0, hv, h0.1, h0.2⟩
    · exact ⟨plo, hv, Int.le_refl _, by omega⟩
    · exact ⟨phi, hv, by omega, Int.le_refl _⟩

theorem strIntBodyOK_sound (sc : Strconv) (hc : ParseIntContract sc) (tbl : List Case) (n : Nat) (tgt : Ty) (w : String)
    (hk : strIntBodyOK tgt (lookup tbl tgt (.ty .string)) = true) :
    specStr tgt w (conv sc tbl (n + 1) tgt (.ty .string) (.s w)) = true := by
  unfold strIntBodyOK at hk
  split at hk
  case h_2 => cases hk
  case h_1 lo hi mlo mhi hr hm =>
  simp only [] at hk
  split at hk
  case h_1 s t f hb =>
    simp only [Bool.and_eq_true, beq_iff_eq] at hk
    obtain ⟨rfl, hok⟩ := hk
    obtain ⟨plo, phi, hp, hs, _⟩ := okSrc_sound sc hc t lo hi mlo mhi hr hm s w hok
    rwa [conv_bind hb, callOf_parse hp]
  case h_2 s hb =>
    obtain ⟨plo, phi, hp, _, hs⟩ := okSrc_sound sc hc tgt lo hi mlo mhi hr hm s w hk
    rw [conv_succ, hb]
    change specStr tgt w (callOf sc tbl n _ (.s w) s) = true
    rwa [callOf_parse hp]
  case h_3 s g t fe hb =>
    simp only [Bool.and_eq_true, beq_iff_eq] at hk
    obtain ⟨⟨rfl, hok⟩, hgd⟩ := hk
    obtain ⟨plo, phi, hp, hs, _⟩ := okSrc_sound sc hc t lo hi mlo mhi hr hm s w hok
    split at hgd
    case h_2 => cases hgd
    case h_1 plo' phi' l h hp' hg =>
    cases hp.symm.trans hp'
    simp only [Bool.and_eq_true, decide_eq_true_eq] at hgd
    obtain ⟨v, hv, hv1, hv2⟩ := parseCall_val sc hc s plo phi hp hgd.1 w
    have hev : evalC (parseCall sc s w).val g = some true := by
      rw [hv, intBounds_sound hg v, guardCovers_pass hgd.2 v hv1 hv2]
    rwa [conv_bind hb, callOf_parse hp, afterCall_guard hev]
  case h_4 => cases hk

theorem goParseInt_spec (bits : Nat) (w : String) :
    ParseOK false (-((2 ^ (bits - 1) : Nat) : Int)) (((2 ^ (bits - 1) : Nat) : Int) - 1) w (goParseInt bits w) := by
  simp only [ParseOK, goParseInt]
  generalize ((2 ^ (bits - 1) : Nat) : Int) = B
  cases hs : intSyntax w with
  | none => simp
  | some z =>
    simp only
    by_cases h1 : z < -B
    · simp [h1]; omega
    · by_cases h2 : z > B - 1 <;> simp [h1, h2] <;> omega

theorem goParseUint_spec (bits : Nat) (w : String) :
    ParseOK true 0 (((2 ^ bits : Nat) : Int) - 1) w (goParseUint bits w) := by
  simp only [ParseOK, goParseUint]
  generalize ((2 ^ bits : Nat) : Int) = B
  cases hd : digitsVal w.toList with
  | none => simp
  | some n =>
    have hs := digitsVal_intSyntax w n hd
    by_cases h2 : (n : Int) > B - 1 <;> simp [h2, hs]
    omega

theorem goStrconv_parseInt_contract : ParseIntContract goStrconv := by
  intro s plo phi hp w
  cases s <;> cases hp
  · exact goParseInt_spec _ w
  · exact goParseUint_spec _ w
  · exact goParseInt_spec 64 w

/-- Documented contract of `strconv.ParseFloat(w, bits)` on decimal numerals (`decimalRat w = some ±n/d`):
    * it returns a float64;
    * a nil error comes with the nearest value of the format (ties to even), which is finite — a numeral that
      rounds to ±Inf yields an error ("more than 1/2 ULP away from the largest floating point number");
    * a numeral whose magnitude does not exceed the largest finite value converts successfully;
    * with `bits = 32` the result "is convertible to float32 without changing its value";
    * a string that is not a numeral at all is a syntax error, or one of the "inf"/"nan" spellings (a non-finite value). -/
structure ParseFloatContract (f : Fmt) (pf : String → Res) : Prop where
  val : ∀ w, ∃ y, (pf w).val = .f64 y
  exact : ∀ w s n d y, decimalRat w = some (s, n, d) → (pf w).err = .ok → (pf w).val = .f64 y →
    sameFloat (roundRat f s n d) y = true ∧ y.isFin = true
  fits : ∀ w s n d, decimalRat w = some (s, n, d) → n ≤ f.maxFinite * d → (pf w).err = .ok
  repr : f = f32 → ∀ w y, (pf w).err = .ok → (pf w).val = .f64 y → sameFloat (y.roundTo f32) y = true
  nonnum : ∀ w y, decimalRat w = none → leftOpen w = false → (pf w).err = .ok → (pf w).val = .f64 y → y.isFin = false

theorem decimalRat_den_pos {w : String} {s : Bool} {n d : Nat} (h : decimalRat w = some (s, n, d)) : 0 < d := by
  unfold decimalRat at h
  split at h
  · cases h
  · split at h
    · split at h
      · simp at h; omega
      · cases h
    · split at h
      · simp at h
        obtain ⟨_, _, rfl⟩ := h
        exact Nat.pow_pos (by decide)
      · cases h

/-- the string clause of a float method: `return strconv.ParseFloat(s, 64)` /
    `val, err := strconv.ParseFloat(s, 32); return float32(val), err` -/
def strFloatBodyOK (tgt : Ty) (body : Body) : Bool :=
  match tgt, body with
  | .float64, .direct (.parseFloat 64) => true
  | .float32, .bind (.parseFloat 32) none ⟨.cast .float32 .v, .fromCall⟩ _ => true
  | _, _ => false

/-- the parse call returned the float64 `y`; the clause returns `y'`: `y` itself, or `y` narrowed without changing
    its value -/
theorem specStr_float_of {tgt : Ty} {f : Fmt} {pf : String → Res} {w : String} {v : Val} {y y' : FVal}
    (hc : ParseFloatContract f pf)
    (ht : tgt.fmt = some f) (hv : valOfTy tgt v = true) (hy' : floatOf v = some y')
    (hy : (pf w).val = .f64 y) (hsame : (pf w).err = .ok → sameFloat y' y = true) :
    specStr tgt w ⟨v, (pf w).err⟩ = true := by
  have hspec : specStr tgt w ⟨v, (pf w).err⟩ = (match decimalRat w with
      | some (s, n, d) =>
        ((pf w).err != .ok || (sameFloat (roundRat f s n d) y' && y'.isFin)) &&
          (!decide (n ≤ f.maxFinite * d) || (pf w).err == .ok)
      | none => leftOpen w || (pf w).err != .ok || !y'.isFin) := by
    cases tgt <;> cases ht <;> cases v <;> cases hv <;> cases hy' <;>
      simp only [specStr, Ty.range, Ty.must, Ty.fmt, floatOf, valOfTy, Bool.true_and] <;> rfl
  rw [hspec]
  split
  case h_1 s n d hd =>
    by_cases he : (pf w).err = .ok
    · obtain ⟨h1, h2⟩ := hc.exact w s n d y hd he hy
      simp [he, sameFloat_of_common_right h1 (hsame he), (sameFloat_isFin (hsame he)).trans h2]
    · simp [he, mt (hc.fits w s n d hd) he]
  case h_2 hd =>
    cases hlo : leftOpen w
    · by_cases he : (pf w).err = .ok
      · simp [he, (sameFloat_isFin (hsame he)).trans (hc.nonnum w y hd hlo he hy)]
      · simp [he]
    · rfl

theorem strFloat64_sound (sc : Strconv) (hc : ParseFloatContract f64 (sc.parseFloat 64)) (tbl : List Case) (n : Nat)
    (w : String) (hk : strFloatBodyOK .float64 (lookup tbl .float64 (.ty .string)) = true) :
    specStr .float64 w (conv sc tbl (n + 1) .float64 (.ty .string) (.s w)) = true := by
  unfold strFloatBodyOK at hk
  split at hk
  case h_1 hb =>
    rw [conv_succ, hb]
    obtain ⟨y, hy⟩ := hc.val w
    have := specStr_float_of (tgt := .float64) (v := .f64 y) hc rfl rfl rfl hy fun _ => sameFloat_refl y
    rw [← hy] at this
    exact this
  case h_2 h _ => cases h
  case h_3 => cases hk

theorem strFloat32_sound (sc : Strconv) (hc : ParseFloatContract f32 (sc.parseFloat 32)) (tbl : List Case) (n : Nat)
    (w : String) (hk : strFloatBodyOK .float32 (lookup tbl .float32 (.ty .string)) = true) :
    specStr .float32 w (conv sc tbl (n + 1) .float32 (.ty .string) (.s w)) = true := by
  unfold strFloatBodyOK at hk
  split at hk
  case h_2 f _ hb =>
    rw [conv_bind hb]
    obtain ⟨y, hy⟩ := hc.val w
    simp only [afterCall, callOf, strOf, evalR, evalE, hy, errOf]
    -- the contract's `repr`: narrowing does not change the value
    exact specStr_float_of hc rfl rfl rfl hy fun he => hc.repr rfl w y he hy
  case h_1 h _ => cases h
  case h_3 => cases hk

/-! ### the contract is satisfiable: the obvious reference function for binary64 -/

def refParseFloat64 (w : String) : Res :=
  match decimalRat w with
  | some (s, n, d) =>
    (match roundRat f64 s n d with
     | .fin a b c => ⟨.f64 (.fin a b c), .ok⟩
     | _ => ⟨.f64 (.inf s), .other⟩)
  | none => ⟨.f64 .nan, .other⟩

theorem refParseFloat64_contract : ParseFloatContract f64 refParseFloat64 where
  val := by
    intro w
    unfold refParseFloat64
    split
    · split <;> exact ⟨_, rfl⟩
    · exact ⟨_, rfl⟩
  exact := by
    intro w s n d y hd he hy
    unfold refParseFloat64 at he hy
    simp only [hd] at he hy
    cases hr : roundRat f64 s n d with
    | fin a b c =>
      rw [hr] at hy
      cases hy
      exact ⟨sameFloat_refl _, rfl⟩
    | _ =>
      rw [hr] at he
      cases he
  fits := by
    intro w s n d hd hfit
    have hfin := roundRat_isFin f64 (Or.inr rfl) s n d (decimalRat_den_pos hd) hfit
    unfold refParseFloat64
    simp only [hd]
    cases hr : roundRat f64 s n d with
    | fin a b c => rfl
    | _ =>
      rw [hr] at hfin
      cases hfin
  repr := by
    intro h
    simp [f32, f64] at h
  nonnum := by
    intro w y hd _ he _
    unfold refParseFloat64 at he
    simp [hd] at he

end FpgoVerif.C02
