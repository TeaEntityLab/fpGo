import FpgoVerif.Props.C06
import FpgoVerif.Proofs.C08Lin
/-! C08 over the POINTER-LEVEL LinkedListQueue of C06: the generic `Sys σ Op Ret` instantiated with
    σ := `C06.Q` (heap of nodes, first/last/count, free list), apply := `C06.step`, Ret := `C06.Obs`, and the
    simulation of its sequential runs by the ideal deque (`qApply` / `sApply`) through `C06_step_refines`. -/
namespace FpgoVerif.C08
open FpgoVerif

def obsOfRet : Ret → C06.Obs
  | .nil => .nil
  | .ok v => .ok v
  | .empty => .empty
  | .full => .bad      -- never produced by the unbounded deque

theorem obsOfRet_ne (r : Ret) : obsOfRet r ≠ .panic ∧ obsOfRet r ≠ .hang := by
  cases r <;> simp [obsOfRet]

theorem seqRun_refines {Op' : Type} (f : Op' → C06.Op) (ops : List Op') :
    ∀ {q : C06.Q} {i : C06.Ideal}, C06.Abs q i →
      (seqRun (fun q op => C06.step q (f op)) q ops).2 = (seqRun (fun i op => C06.specStep i (f op)) i ops).2 ∧
      C06.Abs (seqRun (fun q op => C06.step q (f op)) q ops).1 (seqRun (fun i op => C06.specStep i (f op)) i ops).1 := by
  induction ops with
  | nil => intro q i h; exact ⟨rfl, h⟩
  | cons op ops ih =>
    intro q i h
    obtain ⟨ho, ha⟩ := C06.C06_step_refines h (f op)
    obtain ⟨h2, h1⟩ := ih ha
    exact ⟨List.cons_eq_cons.2 ⟨ho, h2⟩, h1⟩

/-- the (items, spare) spec restricted to the wrapper's methods is the ideal deque `ap` on the items -/
theorem ideal_seqRun {Op' : Type} (f : Op' → C06.Op) (ap : List Int → Op' → List Int × Ret)
    (hs : ∀ (i : C06.Ideal) op, (C06.specStep i (f op)).1.items = (ap i.items op).1 ∧
      (C06.specStep i (f op)).2 = obsOfRet (ap i.items op).2) (ops : List Op') :
    ∀ i : C06.Ideal,
      (seqRun (fun i op => C06.specStep i (f op)) i ops).2 = (seqRun ap i.items ops).2.map obsOfRet ∧
      (seqRun (fun i op => C06.specStep i (f op)) i ops).1.items = (seqRun ap i.items ops).1 := by
  induction ops with
  | nil => intro i; simp [seqRun]
  | cons op ops ih =>
    intro i
    obtain ⟨h1, h2⟩ := hs i op
    obtain ⟨r1, r2⟩ := ih (C06.specStep i (f op)).1
    rw [h1] at r1 r2
    exact ⟨List.cons_eq_cons.2 ⟨h2, r1⟩, r2⟩

theorem spec_q (i : C06.Ideal) (op : QOp) :
    (C06.specStep i (llqOpQ op)).1.items = (qApply i.items op).1 ∧
    (C06.specStep i (llqOpQ op)).2 = obsOfRet (qApply i.items op).2 := by
  cases op with
  | put v | offer v => simp [C06.specStep, llqOpQ, qApply, obsOfRet]
  | take | poll => cases h : i.items <;> simp [C06.specStep, llqOpQ, qApply, obsOfRet, h]

theorem spec_s (i : C06.Ideal) (op : SOp) :
    (C06.specStep i (llqOpS op)).1.items = (sApply i.items op).1 ∧
    (C06.specStep i (llqOpS op)).2 = obsOfRet (sApply i.items op).2 := by
  cases op with
  | push v => simp [C06.specStep, llqOpS, sApply, obsOfRet]
  | pop => cases h : i.items.getLast? <;> simp [C06.specStep, llqOpS, sApply, obsOfRet, h]

/-- `C06.initWith pick` is `NewLinkedListQueue()` -/
theorem llq_seq {Op' : Type} (f : Op' → C06.Op) (ap : List Int → Op' → List Int × Ret)
    (hs : ∀ (i : C06.Ideal) op, (C06.specStep i (f op)).1.items = (ap i.items op).1 ∧
      (C06.specStep i (f op)).2 = obsOfRet (ap i.items op).2) (pick : Nat → Nat) (ops : List Op') :
    (seqRun (fun q op => C06.step q (f op)) (C06.initWith pick) ops).2 = (seqRun ap [] ops).2.map obsOfRet ∧
    ∃ spare, C06.Abs (seqRun (fun q op => C06.step q (f op)) (C06.initWith pick) ops).1 ⟨(seqRun ap [] ops).1, spare⟩ := by
  obtain ⟨h1, chain, pool, hr, hl⟩ := seqRun_refines f ops (C06.abs_init pick)
  obtain ⟨g1, g2⟩ := ideal_seqRun f ap hs ops C06.ideal0
  exact ⟨h1.trans g1, _, chain, pool, g2 ▸ hr, hl⟩

/-- `C08_over_linkedListQueue` and its stack twin without their conservation clause, for any translation `f` of the
    wrapper's methods into LinkedListQueue's and the ideal object `ap` that `hs` says it specifies -/
theorem over_llq {Op' : Type} (f : Op' → C06.Op) (ap : List Int → Op' → List Int × Ret)
    (hs : ∀ (i : C06.Ideal) op, (C06.specStep i (f op)).1.items = (ap i.items op).1 ∧
      (C06.specStep i (f op)).2 = obsOfRet (ap i.items op).2) (pick : Nat → Nat) (s : State C06.Q Op' C06.Obs)
    (h : Reach ⟨C06.initWith pick, fun q op => C06.step q (f op), fun _ => .excl⟩ s) :
    s.lin.map (·.ret) = (seqRun ap [] (s.lin.map (·.op))).2.map obsOfRet ∧
    (s.acqs = s.lin.map (·.t) ∨ ∃ t, precommit (s.pc t) ∧ s.acqs = s.lin.map (·.t) ++ [t]) ∧
    (∀ d ∈ s.done, d.invAt < d.linAt ∧ d.linAt < d.retAt ∧ (⟨d.t, d.op, d.ret, d.linAt⟩ : LinE Op' C06.Obs) ∈ s.lin ∧
      d.ret ≠ .panic ∧ d.ret ≠ .hang) ∧
    (∀ e ∈ s.lin, e.ret ≠ .panic ∧ e.ret ≠ .hang) ∧
    (∃ chain pool, C06.Rep s.obj (seqRun ap [] (s.lin.map (·.op))).1 chain pool) := by
  have i := reach_inv _ (fun _ => rfl) h
  obtain ⟨hr, spare, chain, pool, hrep, _⟩ := llq_seq f ap hs pick (s.lin.map (·.op))
  have hseq : seqRun (fun q op => C06.step q (f op)) (C06.initWith pick) (s.lin.map (·.op)) = _ := i.seq
  rw [hseq] at hr hrep
  dsimp only at hr hrep
  have hlin : ∀ e ∈ s.lin, e.ret ≠ .panic ∧ e.ret ≠ .hang := by
    intro e he
    have : e.ret ∈ s.lin.map (·.ret) := List.mem_map.mpr ⟨e, he, rfl⟩
    rw [hr] at this
    obtain ⟨r, _, hre⟩ := List.mem_map.mp this
    exact hre ▸ obsOfRet_ne r
  exact ⟨hr, i.acq_order, fun d hd => let ⟨a, b, _, c⟩ := i.doneOK d hd; ⟨a, b, c, hlin _ c⟩, hlin, chain, pool, hrep⟩

end FpgoVerif.C08
