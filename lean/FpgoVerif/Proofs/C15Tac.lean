/-! What the four C15 invariant proofs share.  Each goes program counter by program counter and leaf by leaf of `step`; at a
    leaf the new invariant is `{ hi with c₁ := …, c₂ := … }`, listing only the clauses the atom touches.  The clauses not
    listed are taken from `hi`: their statements about the updated state unfold (structure update, `updK` at concrete kinds)
    to their statements about the old one, which the elaborator checks by definitional unfolding alone.  Proving all
    clauses afresh at every leaf, with the whole invariant in context, is far slower to check. -/

set_option hygiene false in
/-- Evaluates a counter function after a goroutine moved, `(move c a nx) k`, at concrete kinds: unfolds the
    component's own `move` and `kind` (the names are resolved where the tactic is used) and decides the
    comparisons of kinds.  To be used inside the namespace of exactly one component. -/
macro "cnt_eval" loc:(Lean.Parser.Tactic.location)? : tactic =>
  `(tactic| simp only [move, updK, kind, reduceCtorEq, ↓reduceIte] $[$loc]?)
