import FpgoVerif.Gen.Twins
/-! C05: which generic / interface{} pairs the hand-written models treat as ONE model (bodies identical
    after type erasure) and which got separate `G.*` / `I.*` models — with the hashes of the normalised
    bodies those separate models were written from.  Compared with the regenerated `Gen.twins` by the
    closing theorems in `Props/C05.lean`. -/
namespace FpgoVerif.C05

/-- pairs modelled by a single function (generic-side name) -/
def expectedSame : List String := [
  "Distinct", "DuplicateMap", "Exists", "Intersection", "IntersectionMapByKey", "IsSubset",
  "IsSubsetMapByKey", "IsSuperset", "IsSupersetMapByKey", "Keys", "MapSetDef.Add", "MapSetDef.Clone",
  "MapSetDef.ContainsKey", "MapSetDef.ContainsValue", "MapSetDef.Get", "MapSetDef.Intersection",
  "MapSetDef.IsSubsetByKey", "MapSetDef.IsSupersetByKey", "MapSetDef.Keys", "MapSetDef.MapKey",
  "MapSetDef.MapValue", "MapSetDef.Minus", "MapSetDef.RemoveKeys", "MapSetDef.RemoveValues",
  "MapSetDef.Set", "MapSetDef.Size", "MapSetDef.Union", "MapSetDef.Values", "Merge", "Minus",
  "NewStreamSet", "SetFrom", "SetFromArray", "SetFromMap", "SliceToMap", "StreamDef.Append",
  "StreamDef.Clone", "StreamDef.Concat", "StreamDef.Contains", "StreamDef.Distinct", "StreamDef.Filter",
  "StreamDef.FilterNotNil", "StreamDef.Get", "StreamDef.Intersection", "StreamDef.IsSubset",
  "StreamDef.IsSuperset", "StreamDef.Len", "StreamDef.Map", "StreamDef.Minus", "StreamDef.Reject",
  "StreamDef.RemoveItem", "StreamDef.Reverse", "StreamDef.Sort", "StreamDef.SortByIndex",
  "StreamDef.ToArray", "StreamFrom", "StreamFromArray", "StreamSetDef.MinusStreams", "StreamSetFrom",
  "StreamSetFromArray", "Values"]

/-- pairs with separate models: generic-side name, hash of the generic body, hash of the interface{} body.
    Extend: same loop, only `make(StreamDef[T], n)` / `&newOne` vs `make([]interface{}, n)` / `FromArray(newOne)`
    (one model); Remove, the promoted `StreamSet` methods, `StreamSetFromMap`, and the `StreamSetFromMap(x)`
    vs `&StreamSetForInterfaceDef{…: x}` constructors of Clone/Union/Intersection: `G.*` / `I.*` models +
    `C05_twin_*` theorems. -/
def expectedDifferent : List (String × Nat × Nat) := [
  ("StreamDef.Extend", 4255274776679575217, 2211790531086012296),
  ("StreamDef.Remove", 3366680427025867471, 4810330505777605165),
  ("StreamSetDef.Clone", 8544564451101045795, 7708157065977531873),
  ("StreamSetDef.Intersection", 6325662383269674155, 5238867380197375458),
  ("StreamSetDef.IsSubsetByKey(promoted)", 4209487539127688762, 1654011146237663838),
  ("StreamSetDef.IsSupersetByKey(promoted)", 6175547051681657612, 3846028356328299822),
  ("StreamSetDef.Minus(promoted)", 3715521785765553016, 6041983432680510557),
  ("StreamSetDef.Union", 3676474328259700225, 7435882562935972699),
  ("StreamSetFromMap", 6318669097220574483, 4992305506402851198)]

open FpgoVerif.Gen in
def twinsSameOK (tw : List TwinPair) : Bool :=
  expectedSame.all (fun n => tw.any (fun p => p.generic == n && p.identical))

open FpgoVerif.Gen in
def twinsDifferentOK (tw : List TwinPair) : Bool :=
  expectedDifferent.all (fun e => tw.any (fun p => p.generic == e.1 && !p.identical && p.gHash == e.2.1 && p.iHash == e.2.2))

open FpgoVerif.Gen in
/-- no pair outside the two lists (a new twin pair has no model yet), none without a generic counterpart -/
def twinsCompleteOK (tw : List TwinPair) (missing : List String) : Bool :=
  tw.all (fun p => expectedSame.contains p.generic || expectedDifferent.any (fun e => e.1 == p.generic)) &&
  missing.isEmpty && tw.length == expectedSame.length + expectedDifferent.length

end FpgoVerif.C05
