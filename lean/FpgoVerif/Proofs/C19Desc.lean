import FpgoVerif.Proofs.C19Keys
/-! `_compareBySortDescriptors` realises the lexicographic key order, which is a
    strict weak order. -/
namespace FpgoVerif.C19

variable {α : Type}

/-- one level of `_compareBySortDescriptors`: the value before the tie-break recursion -/
def levelCmp (d : Desc α) (x y : α) : Int :=
  match d.key x, d.key y with
  | some k1, some k2 => if d.asc then k1.compareTo k2 else k2.compareTo k1
  | some _, none => if d.asc then 1 else -1
  | none, some _ => if d.asc then -1 else 1
  | none, none => 0

theorem compare_unfold (d : Desc α) (rest : List (Desc α)) (x y : α) :
    compareBySortDescriptors d rest x y =
      match rest with
      | [] => levelCmp d x y
      | d' :: rest' => if levelCmp d x y = 0 then compareBySortDescriptors d' rest' x y else levelCmp d x y := by
  -- the two nil-key `if`s of the code are the `some`/`none` rows of `levelCmp`
  cases hx : d.key x <;> cases hy : d.key y <;> cases rest <;>
    simp [compareBySortDescriptors, levelCmp, hx, hy] <;> cases d.asc <;> simp

theorem Desc.keyLt_of_key_eq (d : Desc α) {x y : α} (h : d.key x = d.key y) : d.keyLt x y = false := by
  simp [Desc.keyLt, h, optLt_irrefl]

theorem Desc.keyLt_irrefl (d : Desc α) (x : α) : d.keyLt x x = false := d.keyLt_of_key_eq rfl

theorem Desc.keyLt_asymm (d : Desc α) {x y : α} (h : d.keyLt x y = true) : d.keyLt y x = false := by
  unfold Desc.keyLt at *
  cases ha : d.asc <;> simp [ha] at h ⊢ <;> exact optLt_strictWeak.asymm h

theorem Desc.keyLt_trans (d : Desc α) {x y z : α} (h1 : d.keyLt x y = true) (h2 : d.keyLt y z = true) :
    d.keyLt x z = true := by
  unfold Desc.keyLt at *
  cases ha : d.asc <;> simp [ha] at h1 h2 ⊢
  · exact optLt_trans _ _ _ h2 h1
  · exact optLt_trans _ _ _ h1 h2

theorem Desc.keyLt_trichotomy (d : Desc α) (x y : α) :
    d.key x = d.key y ∨ d.keyLt x y = true ∨ d.keyLt y x = true := by
  unfold Desc.keyLt
  rcases optLt_trichotomy (d.key x) (d.key y) with h | h | h
  · exact .inl h
  · cases d.asc <;> simp [h]
  · cases d.asc <;> simp [h]

theorem levelCmp_eq (d : Desc α) (x y : α) :
    levelCmp d x y = if d.keyLt x y then -1 else if d.keyLt y x then 1 else 0 := by
  -- nil before every key (`optLt`), two keys by `Key.compareTo_eq`; a descending descriptor swaps the sides
  unfold levelCmp Desc.keyLt
  cases d.key x <;> cases d.key y <;> cases d.asc <;> simp [optLt, Key.compareTo_eq]

theorem Desc.keyLt_congr_left (d : Desc α) {x x' : α} (y : α) (h : d.key x = d.key x') :
    d.keyLt x y = d.keyLt x' y := by simp [Desc.keyLt, h]

theorem Desc.keyLt_congr_right (d : Desc α) (x : α) {y y' : α} (h : d.key y = d.key y') :
    d.keyLt x y = d.keyLt x y' := by simp [Desc.keyLt, h]

theorem lexLt_cons (d : Desc α) (ds : List (Desc α)) (x y : α) :
    lexLt (d :: ds) x y = (d.keyLt x y || (d.key x == d.key y && lexLt ds x y)) := rfl

theorem compare_neg_iff (x y : α) : ∀ (rest : List (Desc α)) (d : Desc α),
    compareBySortDescriptors d rest x y < 0 ↔ lexLt (d :: rest) x y = true
  | rest, d => by
    rw [compare_unfold, lexLt_cons, levelCmp_eq]
    rcases d.keyLt_trichotomy x y with h | h | h
    · -- a tie at this level: the remaining descriptors decide
      cases rest with
      | nil => simp [d.keyLt_of_key_eq h, d.keyLt_of_key_eq h.symm, lexLt]
      | cons d' rest' => simp [d.keyLt_of_key_eq h, d.keyLt_of_key_eq h.symm, h, compare_neg_iff x y rest' d']
    · cases rest <;> simp [h]
    · have hne : d.key x ≠ d.key y := fun e => by rw [d.keyLt_of_key_eq e.symm] at h; cases h
      cases rest <;> simp [h, d.keyLt_asymm h, hne]

theorem descLess_eq_lexLt (ds : List (Desc α)) : descLess ds = lexLt ds := by
  funext x y
  cases ds with
  | nil => rfl
  | cons d rest => exact Bool.eq_iff_iff.2 (decide_eq_true_iff.trans (compare_neg_iff x y rest d))

theorem lexLt_irrefl : ∀ (ds : List (Desc α)) (x : α), lexLt ds x x = false
  | [], _ => rfl
  | d :: ds, x => by simp [lexLt, d.keyLt_irrefl, lexLt_irrefl ds x]

theorem lexLt_cases {d : Desc α} {ds : List (Desc α)} {x y : α} (h : lexLt (d :: ds) x y = true) :
    d.keyLt x y = true ∨ (d.key x = d.key y ∧ lexLt ds x y = true) := by
  simpa [lexLt] using h

theorem lexLt_trans : ∀ (ds : List (Desc α)) (x y z : α),
    lexLt ds x y = true → lexLt ds y z = true → lexLt ds x z = true
  | [], _, _, _, h, _ => by simp [lexLt] at h
  | d :: ds, x, y, z, h1, h2 => by
    rcases lexLt_cases h1 with a | ⟨a, a'⟩ <;> rcases lexLt_cases h2 with b | ⟨b, b'⟩
    · simp [lexLt, d.keyLt_trans a b]
    · simp [lexLt, ← d.keyLt_congr_right x b, a]
    · simp [lexLt, d.keyLt_congr_left z a, b]
    · simp [lexLt, a.trans b, lexLt_trans ds x y z a' b']

theorem lexLt_negTrans : ∀ (ds : List (Desc α)) (x y z : α),
    lexLt ds x y = true → lexLt ds x z = true ∨ lexLt ds z y = true
  | [], _, _, _, h => by simp [lexLt] at h
  | d :: ds, x, y, z, h => by
    rcases d.keyLt_trichotomy x z with e | e | e
    · -- z ties with x at this level
      rcases lexLt_cases h with a | ⟨a, a'⟩
      · exact .inr (by simp [lexLt, ← d.keyLt_congr_left y e, a])
      · rcases lexLt_negTrans ds x y z a' with r | r
        · exact .inl (by simp [lexLt, e, r])
        · exact .inr (by simp [lexLt, e.symm.trans a, r])
    · exact .inl (by simp [lexLt, e])
    · -- z strictly before x
      rcases lexLt_cases h with a | ⟨a, _⟩
      · exact .inr (by simp [lexLt, d.keyLt_trans e a])
      · exact .inr (by simp [lexLt, ← d.keyLt_congr_right z a, e])

theorem lexLt_strictWeak (ds : List (Desc α)) : StrictWeak (lexLt ds) :=
  ⟨lexLt_irrefl ds, lexLt_trans ds, lexLt_negTrans ds⟩

theorem lexLt_liftDesc : ∀ (ds : List (Desc Rec)) (p q : Nat × Rec),
    lexLt (ds.map liftDesc) p q = lexLt ds p.2 q.2
  | [], _, _ => rfl
  | d :: ds, p, q => by
    simp [lexLt, lexLt_liftDesc ds p q, liftDesc, Desc.keyLt]

theorem descLess_liftDesc (ds : List (Desc Rec)) : descLess (ds.map liftDesc) = liftLess (lexLt ds) := by
  rw [descLess_eq_lexLt]; funext p q; exact lexLt_liftDesc ds p q

end FpgoVerif.C19
