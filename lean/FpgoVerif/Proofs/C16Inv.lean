import FpgoVerif.Model.C16
/-! Invariants of the PMap goroutine system, preserved by every step of every goroutine. -/
namespace FpgoVerif.C16

variable {α β : Type}

def WS.compIdx : WS α β → Option Nat | .computing i _ => some i | _ => none
def WS.sendIdx : WS α β → Option Nat | .sending i _ => some i | _ => none

def occ (s : St α β) (i : Nat) : Nat :=
  (s.chJobs.map (·.1)).count i + (s.workers.filterMap WS.compIdx).count i + (s.workers.filterMap WS.sendIdx).count i
  + (s.chResult.map (·.1)).count i + (s.collected.map (·.1)).count i

def produced (s : St α β) (i : Nat) : Nat :=
  (s.workers.filterMap WS.sendIdx).count i + (s.chResult.map (·.1)).count i + (s.collected.map (·.1)).count i

structure Inv (l : List α) (f : α → β) (w cap : Nat) (s : St α β) : Prop where
  wlen : s.workers.length = w
  fed_le : s.fed ≤ l.length
  closed_fed : s.jobsClosed = true → s.fed = l.length
  total : s.chJobs.length + s.workers.countP WS.isComputing + s.workers.countP WS.isSending + s.chResult.length
            + s.collected.length = s.fed
  cons_lt : ∀ i, i < s.fed → occ s i = 1
  cons_ge : ∀ i, s.fed ≤ i → occ s i = 0
  apps : ∀ i, s.apps.count i = produced s i
  wfJobs : ∀ e ∈ s.chJobs, l[e.1]? = some e.2
  wfComp : ∀ i v, WS.computing i v ∈ s.workers → l[i]? = some v
  wfSend : ∀ i r, WS.sending i r ∈ s.workers → (l[i]?).map f = some r
  wfRes : ∀ e ∈ s.chResult, (l[e.1]?).map f = some e.2
  wfCol : ∀ e ∈ s.collected, (l[e.1]?).map f = some e.2
  doneJobs : (∃ x ∈ s.workers, x.isDone = true) → s.jobsClosed = true ∧ s.chJobs = []
  resClosed : s.resultClosed = true → ∀ x ∈ s.workers, x.isDone = true
  colDone : s.collectorDone = true → s.resultClosed = true ∧ s.chResult = []
  noPanic : s.panicked = false
  resCap : s.chResult.length ≤ cap

theorem mem_swap {γ : Type} {x b : γ} (a : γ) {pre post : List γ} (h : x ∈ pre ++ b :: post) :
    x = b ∨ x ∈ pre ++ a :: post := by
  simp only [List.mem_append, List.mem_cons] at h ⊢
  rcases h with h | h | h
  · exact Or.inr (Or.inl h)
  · exact Or.inl h
  · exact Or.inr (Or.inr (Or.inr h))

theorem inv_init (l : List α) (f : α → β) (w cap : Nat) : Inv l f w cap (init w : St α β) := by
  refine ⟨by simp [init], by simp [init], by simp [init], ?_, by simp [init], ?_, ?_, by simp [init], ?_, ?_, by simp [init],
    by simp [init], ?_, by simp [init], by simp [init], rfl, by simp [init]⟩
  · simp [init, List.countP_replicate, WS.isComputing, WS.isSending]
  · intro i _; simp [occ, init, List.filterMap_replicate, WS.compIdx, WS.sendIdx]
  · intro i; simp [produced, init, List.filterMap_replicate, WS.sendIdx]
  · intro i v h; simp [init, List.mem_replicate] at h
  · intro i r h; simp [init, List.mem_replicate] at h
  · rintro ⟨x, hx, hd⟩; simp [init, List.mem_replicate] at hx; rw [hx.2] at hd; simp [WS.isDone] at hd

section steps

/-- unfolds `occ` / `produced` of a worker list `pre ++ x :: post` in a hypothesis, down to counts over `pre` and `post` -/
local macro "wnormh" h:ident : tactic => `(tactic| simp only [occ, produced, List.filterMap_append, List.filterMap_cons, List.filterMap_nil,
  List.count_append, List.count_cons, List.count_nil, List.countP_append, List.countP_cons, List.countP_nil, List.map_append,
  List.map_cons, List.map_nil, List.length_append, List.length_cons, List.length_nil, WS.compIdx, WS.sendIdx,
  WS.isComputing, WS.isSending, WS.isDone] at $h:ident)

variable {l : List α} {f : α → β} {w cap : Nat} {s : St α β}

/-- The four counting clauses come from comparing the census of `s'` with that of `s` (`ap` = the positions `f` has
    newly been applied to); the other clauses are given. -/
theorem Inv.of_census (h : Inv l f w cap s) {s' : St α β} (ap : List Nat) (hfed : s'.fed = s.fed)
    (happs : s'.apps = s.apps ++ ap)
    (htot : s'.chJobs.length + s'.workers.countP WS.isComputing + s'.workers.countP WS.isSending + s'.chResult.length
        + s'.collected.length = s.chJobs.length + s.workers.countP WS.isComputing + s.workers.countP WS.isSending
        + s.chResult.length + s.collected.length)
    (hcen : ∀ j, occ s' j = occ s j ∧ produced s' j = produced s j + ap.count j)
    (wlen : s'.workers.length = w) (closed_fed : s'.jobsClosed = true → s'.fed = l.length)
    (wfJobs : ∀ e ∈ s'.chJobs, l[e.1]? = some e.2) (wfComp : ∀ i v, WS.computing i v ∈ s'.workers → l[i]? = some v)
    (wfSend : ∀ i r, WS.sending i r ∈ s'.workers → (l[i]?).map f = some r)
    (wfRes : ∀ e ∈ s'.chResult, (l[e.1]?).map f = some e.2) (wfCol : ∀ e ∈ s'.collected, (l[e.1]?).map f = some e.2)
    (doneJobs : (∃ x ∈ s'.workers, x.isDone = true) → s'.jobsClosed = true ∧ s'.chJobs = [])
    (resClosed : s'.resultClosed = true → ∀ x ∈ s'.workers, x.isDone = true)
    (colDone : s'.collectorDone = true → s'.resultClosed = true ∧ s'.chResult = [])
    (noPanic : s'.panicked = false) (resCap : s'.chResult.length ≤ cap) : Inv l f w cap s' :=
  ⟨wlen, hfed ▸ h.fed_le, closed_fed, htot.trans (hfed ▸ h.total), fun j hj => (hcen j).1.trans (h.cons_lt j (hfed ▸ hj)),
    fun j hj => (hcen j).1.trans (h.cons_ge j (hfed ▸ hj)),
    fun j => by rw [happs, List.count_append, h.apps j, (hcen j).2], wfJobs, wfComp, wfSend, wfRes, wfCol, doneJobs, resClosed,
    colDone, noPanic, resCap⟩


theorem open_of_notDone (h : Inv l f w cap s) {pre post : List (WS α β)} {a : WS α β}
    (hw : s.workers = pre ++ a :: post) (ha : a.isDone = false) : s.resultClosed = false := by
  cases hr : s.resultClosed with
  | false => rfl
  | true => have := h.resClosed hr a (by rw [hw]; simp); rw [ha] at this; cases this

theorem Inv.workers_replace (h : Inv l f w cap s) {pre post : List (WS α β)} {a : WS α β} (hw : s.workers = pre ++ a :: post)
    (b : WS α β) (hc : ∀ i v, b = .computing i v → l[i]? = some v)
    (hs : ∀ i r, b = .sending i r → (l[i]?).map f = some r) :
    (pre ++ b :: post).length = w ∧ (∀ i v, WS.computing i v ∈ pre ++ b :: post → l[i]? = some v) ∧
    (∀ i r, WS.sending i r ∈ pre ++ b :: post → (l[i]?).map f = some r) ∧
    (b.isDone = false → (∃ x ∈ pre ++ b :: post, x.isDone = true) → ∃ x ∈ s.workers, x.isDone = true) := by
  refine ⟨by rw [← h.wlen, hw, List.length_append, List.length_append]; rfl, fun i v hm => ?_, fun i r hm => ?_, ?_⟩
  · exact (mem_swap a hm).elim (hc i v ·.symm) (fun hm => h.wfComp i v (hw ▸ hm))
  · exact (mem_swap a hm).elim (hs i r ·.symm) (fun hm => h.wfSend i r (hw ▸ hm))
  · rintro hb ⟨x, hx, hd⟩
    rcases mem_swap a hx with rfl | hx
    · rw [hb] at hd; cases hd
    · exact ⟨x, hw ▸ hx, hd⟩

theorem inv_feed (h : Inv l f w cap s) (v : α) (hv : l[s.fed]? = some v) (hc : s.jobsClosed = false) :
    Inv l f w cap { s with fed := s.fed + 1, chJobs := s.chJobs ++ [(s.fed, v)] } := by
  have hlt : s.fed < l.length := (List.getElem?_eq_some_iff.mp hv).1
  have hocc : ∀ j, occ { s with fed := s.fed + 1, chJobs := s.chJobs ++ [(s.fed, v)] } j = occ s j + [s.fed].count j :=
    fun j => by simp only [occ, List.map_append, List.map_cons, List.map_nil, List.count_append]; omega
  refine { h with
    fed_le := hlt, closed_fed := fun hj => (nomatch hc.symm.trans hj), total := ?_, cons_lt := fun j hj => ?_,
    cons_ge := fun j hj => ?_, wfJobs := ?_, doneJobs := fun hd => nomatch hc.symm.trans (h.doneJobs hd).1 }
  · have := h.total; simp only [List.length_append, List.length_cons, List.length_nil]; omega
  · rw [hocc, List.count_singleton]
    by_cases he : s.fed = j
    · rw [h.cons_ge j (he ▸ Nat.le_refl _), if_pos (beq_iff_eq.mpr he)]
    · rw [h.cons_lt j (by have : j < s.fed + 1 := hj; omega), if_neg (mt beq_iff_eq.mp he)]
  · have hj : s.fed + 1 ≤ j := hj
    rw [hocc, List.count_singleton, h.cons_ge j (by omega), if_neg (mt beq_iff_eq.mp (by omega))]
  · intro e he
    rcases List.mem_append.mp he with he | he
    · exact h.wfJobs e he
    · rw [List.mem_singleton.mp he]; exact hv

theorem inv_closeJobs (h : Inv l f w cap s) (hf : s.fed = l.length) :
    Inv l f w cap { s with jobsClosed := true } :=
  { h with closed_fed := fun _ => hf, doneJobs := fun hd => ⟨rfl, (h.doneJobs hd).2⟩ }

theorem inv_take (h : Inv l f w cap s) {pre post : List (WS α β)} {i : Nat} {v : α} {rest : List (Nat × α)}
    (hw : s.workers = pre ++ .idle :: post) (hj : s.chJobs = (i, v) :: rest) :
    Inv l f w cap { s with workers := pre ++ .computing i v :: post, chJobs := rest } := by
  have hopen := open_of_notDone h hw rfl
  have hnd : ¬ ∃ x ∈ s.workers, x.isDone = true := fun hd => by have := (h.doneJobs hd).2; rw [hj] at this; cases this
  obtain ⟨hlen, hcomp, hsend, hdone⟩ := h.workers_replace hw (.computing i v)
    (fun _ _ e => by cases e; exact h.wfJobs (i, v) (hj ▸ List.mem_cons_self)) nofun
  refine h.of_census [] rfl (List.append_nil _).symm ?_ (fun j => ?_) hlen h.closed_fed
    (fun e he => h.wfJobs e (hj ▸ List.mem_cons_of_mem _ he)) hcomp hsend h.wfRes h.wfCol (fun hd => absurd (hdone rfl hd) hnd)
    (fun hr => nomatch hopen.symm.trans hr) h.colDone h.noPanic h.resCap
  · simp only [hw, hj, List.countP_append, List.countP_cons, List.length_cons, WS.isComputing, WS.isSending,
      Bool.false_eq_true, if_true, if_false]; omega
  · simp only [occ, produced, hw, hj, List.filterMap_append, List.filterMap_cons, List.count_append, List.count_cons,
      List.count_nil, List.map_cons, WS.compIdx, WS.sendIdx]; omega


theorem inv_exit (h : Inv l f w cap s) {pre post : List (WS α β)}
    (hw : s.workers = pre ++ .idle :: post) (hj : s.chJobs = []) (hc : s.jobsClosed = true) :
    Inv l f w cap { s with workers := pre ++ .done :: post } := by
  have hopen := open_of_notDone h hw rfl
  obtain ⟨hlen, hcomp, hsend, -⟩ := h.workers_replace hw .done nofun nofun
  refine h.of_census [] rfl (List.append_nil _).symm ?_ (fun j => ?_) hlen h.closed_fed h.wfJobs hcomp hsend
    h.wfRes h.wfCol (fun _ => ⟨hc, hj⟩) (fun hr => nomatch hopen.symm.trans hr) h.colDone h.noPanic h.resCap
  · simp only [hw, List.countP_append, List.countP_cons, WS.isComputing, WS.isSending, Bool.false_eq_true, if_false]
  · simp only [occ, produced, hw, List.filterMap_append, List.filterMap_cons, WS.compIdx, WS.sendIdx, List.count_nil,
      Nat.add_zero, and_self]

theorem inv_compute (h : Inv l f w cap s) {pre post : List (WS α β)} {i : Nat} {v : α}
    (hw : s.workers = pre ++ .computing i v :: post) :
    Inv l f w cap { s with workers := pre ++ .sending i (f v) :: post, apps := s.apps ++ [i] } := by
  have hopen := open_of_notDone h hw rfl
  obtain ⟨hlen, hcomp, hsend, hdone⟩ := h.workers_replace hw (.sending i (f v)) nofun
    (fun _ _ e => by cases e; rw [h.wfComp i v (hw ▸ List.mem_append_right _ List.mem_cons_self)]; rfl)
  refine h.of_census [i] rfl rfl ?_ (fun j => ?_) hlen h.closed_fed h.wfJobs hcomp hsend h.wfRes h.wfCol
    (fun hd => h.doneJobs (hdone rfl hd)) (fun hr => nomatch hopen.symm.trans hr) h.colDone h.noPanic h.resCap
  · simp only [hw, List.countP_append, List.countP_cons, WS.isComputing, WS.isSending, Bool.false_eq_true, if_true, if_false]
    omega
  · simp only [occ, produced, hw, List.filterMap_append, List.filterMap_cons, List.count_append, List.count_cons,
      List.count_nil, WS.compIdx, WS.sendIdx]; omega

theorem inv_sendBuf (h : Inv l f w cap s) {pre post : List (WS α β)} {i : Nat} {r : β}
    (hw : s.workers = pre ++ .sending i r :: post) (hcap : s.chResult.length < cap) :
    Inv l f w cap { s with workers := pre ++ .idle :: post, chResult := s.chResult ++ [(i, r)] } := by
  have hopen := open_of_notDone h hw rfl
  obtain ⟨hlen, hcomp, hsend, hdone⟩ := h.workers_replace hw .idle nofun nofun
  refine h.of_census [] rfl (List.append_nil _).symm ?_ (fun j => ?_) hlen h.closed_fed h.wfJobs hcomp hsend
    (fun e he => ?_) h.wfCol (fun hd => h.doneJobs (hdone rfl hd)) (fun hr => nomatch hopen.symm.trans hr)
    (fun hc => nomatch hopen.symm.trans (h.colDone hc).1) h.noPanic
    (by simp only [List.length_append, List.length_cons, List.length_nil]; omega)
  · simp only [hw, List.countP_append, List.countP_cons, List.length_append, List.length_cons, List.length_nil, WS.isComputing,
      WS.isSending, Bool.false_eq_true, if_true, if_false]; omega
  · simp only [occ, produced, hw, List.filterMap_append, List.filterMap_cons, List.count_append, List.count_cons,
      List.count_nil, List.map_append, List.map_cons, List.map_nil, WS.compIdx, WS.sendIdx]; omega
  · rcases List.mem_append.mp he with he | he
    · exact h.wfRes e he
    · rw [List.mem_singleton.mp he]; exact h.wfSend i r (hw ▸ List.mem_append_right _ List.mem_cons_self)

theorem inv_handoff (h : Inv l f w cap s) {pre post : List (WS α β)} {i : Nat} {r : β}
    (hw : s.workers = pre ++ .sending i r :: post) :
    Inv l f w cap { s with workers := pre ++ .idle :: post, collected := s.collected ++ [(i, r)] } := by
  have hopen := open_of_notDone h hw rfl
  obtain ⟨hlen, hcomp, hsend, hdone⟩ := h.workers_replace hw .idle nofun nofun
  refine h.of_census [] rfl (List.append_nil _).symm ?_ (fun j => ?_) hlen h.closed_fed h.wfJobs hcomp hsend
    h.wfRes (fun e he => ?_) (fun hd => h.doneJobs (hdone rfl hd)) (fun hr => nomatch hopen.symm.trans hr) h.colDone
    h.noPanic h.resCap
  · simp only [hw, List.countP_append, List.countP_cons, List.length_append, List.length_cons, List.length_nil, WS.isComputing,
      WS.isSending, Bool.false_eq_true, if_true, if_false]; omega
  · simp only [occ, produced, hw, List.filterMap_append, List.filterMap_cons, List.count_append, List.count_cons,
      List.count_nil, List.map_append, List.map_cons, List.map_nil, WS.compIdx, WS.sendIdx]; omega
  · rcases List.mem_append.mp he with he | he
    · exact h.wfCol e he
    · rw [List.mem_singleton.mp he]; exact h.wfSend i r (hw ▸ List.mem_append_right _ List.mem_cons_self)

theorem inv_closeResult (h : Inv l f w cap s) (hd : ∀ x ∈ s.workers, x.isDone = true) (ho : s.resultClosed = false) :
    Inv l f w cap { s with resultClosed := true } :=
  { h with resClosed := fun _ => hd, colDone := fun hc => nomatch ho.symm.trans (h.colDone hc).1 }

theorem inv_collect (h : Inv l f w cap s) {e : Nat × β} {rest : List (Nat × β)} (hr : s.chResult = e :: rest)
    (hc : s.collectorDone = false) :
    Inv l f w cap { s with chResult := rest, collected := s.collected ++ [e] } := by
  refine h.of_census [] rfl (List.append_nil _).symm ?_ (fun j => ?_) h.wlen h.closed_fed h.wfJobs h.wfComp
    h.wfSend (fun e' he => h.wfRes e' (hr ▸ List.mem_cons_of_mem _ he)) (fun e' he => ?_) h.doneJobs h.resClosed
    (fun hc' => nomatch hc.symm.trans hc') h.noPanic (by have := h.resCap; rw [hr] at this; exact Nat.le_of_succ_le this)
  · simp only [hr, List.length_append, List.length_cons, List.length_nil]; omega
  · simp only [occ, produced, hr, List.map_append, List.map_cons, List.map_nil, List.count_append, List.count_cons,
      List.count_nil]; omega
  · rcases List.mem_append.mp he with he | he
    · exact h.wfCol e' he
    · rw [List.mem_singleton.mp he]; exact h.wfRes e (hr ▸ List.mem_cons_self)

theorem inv_finish (h : Inv l f w cap s) (hr : s.chResult = []) (hc : s.resultClosed = true) :
    Inv l f w cap { s with collectorDone := true } :=
  { h with colDone := fun _ => ⟨hc, hr⟩ }

/-- the panicking step (`sendClosed`) is never enabled -/
theorem inv_step (h : Inv l f w cap s) {s' : St α β} (hs : Step l f cap s s') : Inv l f w cap s' := by
  cases hs with
  | feed v hc hv _ => exact inv_feed h v hv hc
  | closeJobs _ hf => exact inv_closeJobs h hf
  | take pre post i v rest hw hj => exact inv_take h hw hj
  | exit pre post hw hj hc => exact inv_exit h hw hj hc
  | compute pre post i v hw => exact inv_compute h hw
  | sendBuf pre post i r hw _ hcap => exact inv_sendBuf h hw hcap
  | handoff pre post i r hw _ _ _ => exact inv_handoff h hw
  | sendClosed pre post i r hw hc _ => exact nomatch (open_of_notDone h hw rfl).symm.trans hc
  | closeResult hd ho => exact inv_closeResult h hd ho
  | collect e rest hr hc => exact inv_collect h hr hc
  | finish hr hc _ => exact inv_finish h hr hc

theorem inv_reach {s0 s' : St α β} (h : Inv l f w cap s0) (hr : Reach l f cap s0 s') : Inv l f w cap s' := by
  induction hr with
  | refl => exact h
  | step _ hs ih => exact inv_step ih hs

end steps
end FpgoVerif.C16
