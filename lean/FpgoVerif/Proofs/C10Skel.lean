import FpgoVerif.Gen.Skeletons
/-! The skeleton lookups of publisher.go.  `Props/C10.lean` states each of them as a theorem of its own (`C10_skel_*`);
    the strings stand here once more because the six lookups are evaluated together: the kernel then decodes each key
    of the regenerated table once, not once per lookup. -/
namespace FpgoVerif.C10

theorem skeletons_agree :
    Gen.skeletonOf "PublisherDef.doSubscribeSafe" =
      some "call(subscribeM.Lock) callfn(fn) call(subscribeM.Unlock)" ∧
    Gen.skeletonOf "PublisherDef.Publish" =
      some "func{get(subscribers) set(subscribers)} call(doSubscribeSafe) range[]{if[]{func{callfn(OnNext)} if[get(subOn)]{get(subOn) call(subOn.Post)}else{callfn(doSub)}}}" ∧
    Gen.skeletonOf "PublisherDef.Subscribe" =
      some "func{get(subscribers) call(append) set(subscribers)} call(doSubscribeSafe) return" ∧
    Gen.skeletonOf "PublisherDef.Unsubscribe" =
      some "func{get(subscribers) set(subscribers) range[]{if[]{call(append) call(append) set(subscribers) break}}} call(doSubscribeSafe) if[]{call(Unsubscribe)}" ∧
    Gen.skeletonOf "PublisherDef.Map" =
      some "call(PublisherNewGenerics) func{callfn(fn) call(Publish)} call(Subscribe) return" ∧
    Gen.skeletonOf "PublisherDef.SubscribeOn" = some "set(subOn) return" := by decide +kernel

end FpgoVerif.C10
