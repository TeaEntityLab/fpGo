import FpgoVerif.Proofs.C03Basic
/-! C03 — the association-list model of Go maps (`mget`, `mset`, `copyInto`).
    `Proofs/C05Maps.lean` develops the same object for C05's own definitions (argument order `mget m k`). -/
namespace FpgoVerif.C03
variable {α β κ ν : Type}

theorem mget_append [DecidableEq κ] (k : κ) (a b : List (κ × ν)) :
    mget k (a ++ b) = match mget k b with | some w => some w | none => mget k a := by
  induction a with
  | nil => cases h : mget k b <;> simp [mget, h]
  | cons p t ih => simp only [List.cons_append, mget, ih]; cases mget k b <;> rfl

theorem mget_single [DecidableEq κ] (k k' : κ) (v : ν) :
    mget k [(k', v)] = if k' = k then some v else none := by
  simp [mget]

theorem mget_eq_none_iff [DecidableEq κ] (k : κ) (m : List (κ × ν)) :
    mget k m = none ↔ mhas k m = false := by
  induction m with
  | nil => simp [mget, mhas]
  | cons p t ih =>
    rw [mhas, List.any_cons, Bool.or_eq_false_iff, ← mhas, ← ih, mget]
    cases mget k t <;> simp

theorem mget_map_val [DecidableEq κ] (f : κ → ν → ν) (k : κ) (m : List (κ × ν)) :
    mget k (m.map (fun p => (p.1, f p.1 p.2))) = (mget k m).map (f k) := by
  induction m with
  | nil => rfl
  | cons p t ih =>
    simp only [List.map_cons, mget, ih]
    cases mget k t <;> by_cases h : p.1 = k <;> simp [h]

theorem mget_mset [DecidableEq κ] (k k' : κ) (v : ν) (m : List (κ × ν)) :
    mget k (mset m k' v) = if k' = k then some v else mget k m := by
  unfold mset
  split
  · rename_i h
    -- an overwrite keeps the keys and sets the value at `k'`
    rw [show (fun p : κ × ν => if p.1 = k' then (k', v) else p) = fun p => (p.1, if p.1 = k' then v else p.2) from
      funext fun p => by split <;> simp [*], mget_map_val (fun k2 v2 => if k2 = k' then v else v2)]
    by_cases hk : k' = k
    · subst hk
      cases hm : mget k' m
      · rw [(mget_eq_none_iff k' m).mp hm] at h; cases h
      · simp
    · cases mget k m <;> simp [hk, Ne.symm hk]
  · rw [mget_append]
    by_cases hk : k' = k <;> simp [mget_single, hk]

theorem keys_mset [DecidableEq κ] (k : κ) (v : ν) (m : List (κ × ν)) :
    (mset m k v).map (·.1) = if mhas k m then m.map (·.1) else m.map (·.1) ++ [k] := by
  unfold mset
  split
  · rw [List.map_map]
    apply List.map_congr_left
    intro p _
    by_cases hp : p.1 = k <;> simp [hp]
  · exact List.map_append

theorem mhas_iff_mem_keys [DecidableEq κ] (k : κ) (m : List (κ × ν)) :
    mhas k m = true ↔ k ∈ m.map (·.1) := by
  simp [mhas]

theorem nodup_keys_mset [DecidableEq κ] (k : κ) (v : ν) (m : List (κ × ν)) (h : (m.map (·.1)).Nodup) :
    ((mset m k v).map (·.1)).Nodup := by
  rw [keys_mset]
  split
  · exact h
  · rename_i hk
    have hn : k ∉ m.map (·.1) := fun hm => hk ((mhas_iff_mem_keys k m).mpr hm)
    simpa [List.nodup_append, h] using fun a b hab e => hn (List.mem_map.mpr ⟨(a, b), hab, e⟩)

theorem copyInto_spec [DecidableEq κ] (k : κ) (src dst : List (κ × ν)) :
    mget k (copyInto src dst) = match mget k src with | some w => some w | none => mget k dst := by
  induction src generalizing dst with
  | nil => simp [copyInto, mget]
  | cons p t ih =>
    obtain ⟨k', v⟩ := p
    simp only [copyInto, List.foldl_cons, mget] at ih ⊢
    rw [ih, mget_mset]
    cases mget k t
    · by_cases hk : k' = k <;> simp [hk]
    · rfl

theorem mget_copyInto [DecidableEq κ] (k : κ) (src dst : List (κ × ν)) :
    mget k (copyInto src dst) = mget k (dst ++ src) := by
  rw [copyInto_spec, mget_append]

theorem copyInto_nodup [DecidableEq κ] (src dst : List (κ × ν)) (h : (dst.map (·.1)).Nodup) :
    ((copyInto src dst).map (·.1)).Nodup :=
  List.foldlRecOn src _ (motive := fun m : List (κ × ν) => (m.map (·.1)).Nodup) h
    fun _ hm _ _ => nodup_keys_mset _ _ _ hm

end FpgoVerif.C03
