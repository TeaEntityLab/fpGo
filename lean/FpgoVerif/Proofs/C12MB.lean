import FpgoVerif.Model.C12MB
/-! The invariant `Inv` of the mailbox transition system, its preservation by every atom (`step_inv`), and its
    consequences. -/
namespace FpgoVerif.C12

theorem proj_append (i : Nat) (a b : List Job) : proj i (a ++ b) = proj i a ++ proj i b := by
  simp [proj, List.filter_append]

theorem proj_single_same {i : Nat} {j : Job} (h : j.sender = i) : proj i [j] = [j] := by
  simp [proj, h]

theorem proj_single_other {i : Nat} {j : Job} (h : j.sender ≠ i) : proj i [j] = [] := by
  simp [proj, h]

@[simp] theorem proj_nil (i : Nat) : proj i [] = [] := rfl

theorem proj_cons_same {i : Nat} {j : Job} (l : List Job) (h : j.sender = i) : proj i (j :: l) = j :: proj i l := by
  simp [proj, h]

theorem proj_cons_other {i : Nat} {j : Job} (l : List Job) (h : j.sender ≠ i) : proj i (j :: l) = proj i l := by
  simp [proj, h]

def OwnedScript (script : Nat → List Job) : Prop := ∀ i j, j ∈ script i → j.sender = i

structure Inv (script : Nat → List Job) (s : MB) : Prop where
  ownP : ∀ i j, j ∈ s.pending i → j.sender = i
  ownC : ∀ i j, s.cur i = some j → j.sender = i
  cons : ∀ i, proj i (s.done ++ s.running ++ s.ch) ++ proj i s.dropped ++ optl (s.cur i) ++ s.pending i = script i
  noClose : s.flag = false → s.dropped = [] ∧ s.chClosed = false
  curFresh : ∀ i j, s.cur i = some j → proj i s.dropped = []
  serial : s.running.length ≤ 1
  exitedQ : s.exited = true → s.chClosed = true ∧ s.ch = [] ∧ s.running = []
  closedFlag : s.chClosed = true → s.flag = true

theorem inv_init {script} (ho : OwnedScript script) : Inv script (MB.init script) := by
  refine ⟨ho, ?_, ?_, ?_, ?_, ?_, ?_, ?_⟩ <;> simp [MB.init, optl]

theorem proj_snoc (k i : Nat) (l : List Job) (j : Job) (hj : j.sender = i) :
    proj k (l ++ [j]) = if k = i then proj k l ++ [j] else proj k l := by
  rw [proj_append]
  split
  · next h => subst h; rw [proj_single_same hj]
  · next h => rw [proj_single_other (by rw [hj]; exact fun e => h e.symm)]; simp

theorem cur_of_upd_none {cur : Nat → Option Job} {i k : Nat} {x : Job} (h : upd cur i none k = some x) :
    cur k = some x := by
  unfold upd at h
  split at h
  · cases h
  · exact h

theorem mem_upd_tail {pend : Nat → List Job} {i k : Nat} {j x : Job} {rest : List Job} (hp : pend i = j :: rest)
    (h : x ∈ upd pend i rest k) : x ∈ pend k := by
  unfold upd at h
  split at h
  · next e => subst e; rw [hp]; exact List.mem_cons_of_mem _ h
  · exact h

theorem MB.idle_running {s : MB} (h : s.idle = true) : s.running = [] := by
  simp only [MB.idle, Bool.and_eq_true, List.isEmpty_iff] at h; exact h.1

theorem step_inv {cap script s t} (a : Act) (hi : Inv script s) (h : step cap s a = some t) : Inv script t := by
  cases a with
  | check i =>
    simp only [step] at h
    split at h
    · next hc hp =>
      have hj := hi.ownP i _ (by rw [hp]; exact List.mem_cons_self)
      split at h
      · -- flag set: dropped
        next hf =>
        cases h
        refine { hi with ownP := fun k x hx => hi.ownP k x (mem_upd_tail hp hx), cons := ?_, noClose := ?_, curFresh := ?_ }
        · intro k
          have hk := hi.cons k
          simp only [proj_snoc k i _ _ hj, upd]
          by_cases e : k = i
          · subst e; rw [hp, hc] at hk; rw [hc]
            simpa [optl, List.append_assoc] using hk
          · simp only [if_neg e]; exact hk
        · intro hf'; simp [hf] at hf'
        · intro k x hx
          have := hi.curFresh k x hx
          simp only [proj_snoc k i _ _ hj]
          by_cases e : k = i
          · subst e; rw [hc] at hx; cases hx
          · simp only [if_neg e]; exact this
      · next hf =>
        cases h
        have hd := hi.noClose (by simpa using hf)
        refine { hi with ownP := fun k x hx => hi.ownP k x (mem_upd_tail hp hx), ownC := ?_, cons := ?_, curFresh := ?_ }
        · intro k x hx
          simp only [upd] at hx
          split at hx
          · next e => subst e; cases hx; exact hj
          · exact hi.ownC _ _ hx
        · intro k
          have hk := hi.cons k
          simp only [upd]
          by_cases e : k = i
          · subst e; rw [hp, hc] at hk
            simpa [optl, List.append_assoc] using hk
          · simp only [if_neg e]; exact hk
        · intro k x _; rw [hd.1]; rfl
    · cases h
  | send i =>
    simp only [step] at h
    split at h
    · cases h
    · next j hc =>
      have hj := hi.ownC i j hc
      have hfresh := hi.curFresh i j hc
      split at h
      · -- closed channel: panic recovered, dropped
        next hcl =>
        cases h
        refine { hi with ownC := fun k x hx => hi.ownC k x (cur_of_upd_none hx), cons := ?_, noClose := ?_, curFresh := ?_ }
        · intro k
          have hk := hi.cons k
          simp only [proj_snoc k i _ _ hj, upd]
          by_cases e : k = i
          · subst e; rw [hc] at hk
            simpa [optl, List.append_assoc] using hk
          · simp only [if_neg e]; exact hk
        · intro hf'; have h1 := hi.closedFlag hcl; have h2 : s.flag = false := hf'; rw [h2] at h1; cases h1
        · intro k x hx
          simp only [upd] at hx
          split at hx
          · cases hx
          · next e =>
            simp only [proj_snoc k i _ _ hj, if_neg e]; exact hi.curFresh k x hx
      · next hcl =>
        split at h
        · -- buffered
          next hroom =>
          cases h
          refine { hi with
            ownC := fun k x hx => hi.ownC k x (cur_of_upd_none hx)
            curFresh := fun k x hx => hi.curFresh k x (cur_of_upd_none hx)
            cons := ?_, exitedQ := ?_ }
          · intro k
            have hk := hi.cons k
            simp only [← List.append_assoc, proj_snoc k i _ _ hj, upd]
            by_cases e : k = i
            · subst e; rw [hc, hfresh] at hk; rw [hfresh]
              simpa [optl, List.append_assoc] using hk
            · simp only [if_neg e]; simpa [List.append_assoc] using hk
          · intro he; have := hi.exitedQ he; simp [this.1] at hcl
        · split at h
          · -- rendez-vous hand-off to the waiting consumer
            next hd =>
            cases h
            obtain ⟨_, hch, hidle⟩ := hd
            have hrun := MB.idle_running hidle
            refine { hi with
              ownC := fun k x hx => hi.ownC k x (cur_of_upd_none hx)
              curFresh := fun k x hx => hi.curFresh k x (cur_of_upd_none hx)
              serial := by simp
              cons := ?_, exitedQ := ?_ }
            · intro k
              have hk := hi.cons k
              rw [hch, hrun] at hk
              simp only [hch, List.append_nil] at hk ⊢
              simp only [proj_snoc k i _ _ hj, upd]
              by_cases e : k = i
              · subst e; rw [hc, hfresh] at hk; rw [hfresh]
                simpa [optl, List.append_assoc] using hk
              · simp only [if_neg e]; simpa [List.append_assoc] using hk
            · intro he; have := hi.exitedQ he; simp [this.1] at hcl
          · cases h
  | recv =>
    simp only [step] at h
    split at h
    · next hidle =>
      have hrun := MB.idle_running hidle
      split at h
      · next j rest hch =>
        cases h
        refine { hi with cons := ?_, serial := by simp, exitedQ := ?_ }
        · intro k
          have hk := hi.cons k
          rw [hch, hrun] at hk
          simpa [List.append_assoc] using hk
        · intro he; have := hi.exitedQ he; rw [hch] at this; simp at this
      · cases h
    · cases h
  | finish =>
    simp only [step] at h
    split at h
    · next j rest hr =>
      cases h
      have hrest : rest = [] := by
        have := hi.serial
        rw [hr, List.length_cons] at this
        exact List.length_eq_zero_iff.mp (by omega)
      refine { hi with cons := ?_, serial := by simp [hrest], exitedQ := ?_ }
      · intro k
        have hk := hi.cons k
        rw [hr] at hk
        simpa [List.append_assoc] using hk
      · intro he; have := hi.exitedQ he; rw [hr] at this; simp at this
    · cases h
  | closeFlag =>
    simp only [step] at h
    split at h
    · cases h
    · cases h
      exact { hi with noClose := by simp, closedFlag := by simp }
  | closeCh =>
    simp only [step] at h
    split at h
    · next hf =>
      cases h
      refine { hi with noClose := ?_, exitedQ := fun he => ⟨rfl, (hi.exitedQ he).2⟩, closedFlag := fun _ => hf.1 }
      intro hf'; simp [hf.1] at hf'
    · cases h
  | exit =>
    simp only [step] at h
    split at h
    · next hx =>
      cases h
      exact { hi with exitedQ := fun _ => ⟨hx.1, hx.2.1, MB.idle_running (s := s) hx.2.2⟩ }
    · cases h

theorem reach_inv {cap script s} (ho : OwnedScript script) (h : Reach cap script s) : Inv script s := by
  induction h with
  | init => exact inv_init ho
  | step a _ hs ih => exact step_inv a ih hs

theorem nodup_of_proj {l : List Job} (h : ∀ i, (proj i l).Nodup) : l.Nodup := by
  rw [List.nodup_iff_count]; intro a
  have := List.nodup_iff_count.mp (h a.sender) a
  rwa [proj, List.count_filter (by simp)] at this

theorem mem_proj {i : Nat} {j : Job} {l : List Job} : j ∈ proj i l ↔ j ∈ l ∧ j.sender = i := by
  simp [proj]

theorem Inv.handled_prefix {script s} (hi : Inv script s) (i : Nat) :
    proj i (s.done ++ s.running ++ s.ch) ++ proj i s.dropped <+: script i := by
  have := hi.cons i
  exact ⟨optl (s.cur i) ++ s.pending i, by simpa [List.append_assoc] using this⟩

theorem Inv.started_prefix {script s} (hi : Inv script s) (i : Nat) : proj i (s.done ++ s.running) <+: script i := by
  have h := hi.handled_prefix i
  rw [proj_append, List.append_assoc] at h
  exact (List.prefix_append _ _).trans h

theorem Inv.done_prefix {script s} (hi : Inv script s) (i : Nat) : proj i s.done <+: script i := by
  have h := hi.started_prefix i
  rw [proj_append] at h
  exact (List.prefix_append _ _).trans h

theorem Inv.nodup {script s} (hi : Inv script s) (hn : ∀ i, (script i).Nodup) :
    (s.done ++ s.running ++ s.ch ++ s.dropped).Nodup := by
  apply nodup_of_proj
  intro i
  have h := hi.handled_prefix i
  rw [proj_append]
  exact List.Nodup.sublist h.sublist (hn i)

theorem Inv.no_phantom {script s} (hi : Inv script s) {j : Job} (h : j ∈ s.done ++ s.running ++ s.ch ++ s.dropped) :
    j ∈ script j.sender := by
  have hp := hi.handled_prefix j.sender
  apply hp.subset
  rw [← proj_append, mem_proj]
  exact ⟨by simpa [List.append_assoc] using h, rfl⟩

theorem Inv.progress {cap script s} (hi : Inv script s)
    (hwork : (∃ i, s.pending i ≠ [] ∨ s.cur i ≠ none) ∨ s.ch ≠ [] ∨ s.running ≠ []) :
    ∃ a, a ≠ Act.closeFlag ∧ a ≠ Act.closeCh ∧ (step cap s a).isSome = true := by
  cases hr : s.running with
  | cons j rest => exact ⟨.finish, by simp, by simp, by simp [step, hr]⟩
  | nil =>
    cases hch : s.ch with
    | cons j rest =>
      have hex : s.exited = false := Bool.eq_false_iff.2 fun he => nomatch hch.symm.trans (hi.exitedQ he).2.1
      exact ⟨.recv, by simp, by simp, by simp [step, MB.idle, hr, hex, hch]⟩
    | nil =>
      rcases hwork with ⟨i, hw⟩ | hw | hw
      · cases hc : s.cur i with
        | some j =>
          by_cases hcl : s.chClosed = true
          · exact ⟨.send i, by simp, by simp, by simp [step, hc, hcl]⟩
          · have hex : s.exited = false := Bool.eq_false_iff.2 fun he => hcl (hi.exitedQ he).1
            by_cases h0 : cap = 0
            · exact ⟨.send i, by simp, by simp, by simp [step, hc, hcl, hch, h0, MB.idle, hr, hex]⟩
            · exact ⟨.send i, by simp, by simp, by
                have : 0 < cap := Nat.pos_of_ne_zero h0
                simp [step, hc, hcl, hch, this]⟩
        | none =>
          cases hp : s.pending i with
          | nil => rcases hw with hw | hw
                   · exact absurd hp hw
                   · exact absurd hc hw
          | cons j rest =>
            exact ⟨.check i, by simp, by simp, by cases hf : s.flag <;> simp [step, hc, hp, hf]⟩
      · exact absurd hch hw
      · exact absurd hr hw

theorem reach_run {cap script} : ∀ (acts : List Act) {s t}, Reach cap script s → runActs cap s acts = some t →
    Reach cap script t
  | [], s, t, hr, h => by simp only [runActs] at h; cases h; exact hr
  | a :: as, s, t, hr, h => by
    simp only [runActs] at h
    split at h
    · next u hu => exact reach_run as (Reach.step a hr hu) h
    · cases h

theorem reach_of_run {cap script} (acts : List Act) {t} (h : runActs cap (MB.init script) acts = some t) :
    Reach cap script t := reach_run acts Reach.init h

/-! scripts for the non-vacuity examples of `Props/C12.lean` -/

def demoScript (i : Nat) : List Job := if i < 2 then [⟨i, 0⟩, ⟨i, 1⟩] else []

theorem demo_owned : OwnedScript demoScript := by
  intro i j hj
  unfold demoScript at hj
  split at hj
  · simp at hj; rcases hj with rfl | rfl <;> rfl
  · cases hj

theorem demo_nodup : ∀ i, (demoScript i).Nodup := by
  intro i; unfold demoScript; split <;> simp [Job.mk.injEq]

end FpgoVerif.C12
