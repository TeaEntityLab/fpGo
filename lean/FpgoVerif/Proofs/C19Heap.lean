import FpgoVerif.Model.C19
/-! The slice-heap model of `SortedListBySortDescriptors` and of `SortDescriptorsBuilder` values. -/
namespace FpgoVerif.C19

variable {α : Type}

theorem getD_set_self (h : Heap α) (i : Nat) : h.set i (h[i]?.getD []) = h := by
  apply List.ext_getElem?
  intro j
  by_cases hij : i = j
  · subst hij
    by_cases hi : i < h.length
    · simp [hi]
    · simp [hi]
  · simp [hij]

theorem write_nil (h : Heap α) (arr off cap : Nat) : h.write ⟨arr, off, 0, cap⟩ [] = h := by
  simpa [Heap.write] using getD_set_self h arr

theorem read_len_zero (h : Heap α) (s : Slice) (hs : s.len = 0) : h.read s = [] := by
  simp [Heap.read, hs]

theorem read_length (h : Heap α) (s : Slice) (hwf : s.off + s.len ≤ (h.getD s.arr []).length) :
    (h.read s).length = s.len := by
  rw [List.getD_eq_getElem?_getD] at hwf
  simp [Heap.read]; omega

theorem read_append_old (h : Heap α) (a : List α) (s : Slice) (hs : s.len = 0 ∨ s.arr < h.length) :
    (h ++ [a]).read s = h.read s := by
  rcases hs with hs | hs
  · simp [Heap.read, hs]
  · simp [Heap.read, List.getD_eq_getElem?_getD, List.getElem?_append_left hs]

theorem read_fresh (h : Heap α) (xs : List α) (n c : Nat) (hn : xs.length ≤ n) :
    (h ++ [xs]).read ⟨h.length, 0, n, c⟩ = xs := by
  simp [Heap.read, List.getD_eq_getElem?_getD, List.take_of_length_le hn]

theorem sort_length (fn : α → α → Bool) (l : List α) : (sort fn l).length = l.length := by
  simp [sort, sortBy]

theorem write_fresh_read (h : Heap α) (xs ys : List α) (c : Nat) (hl : ys.length = xs.length) :
    ((h ++ [xs]).write ⟨h.length, 0, xs.length, c⟩ ys).read ⟨h.length, 0, xs.length, c⟩ = ys := by
  simp [Heap.write, Heap.read, List.getD_eq_getElem?_getD, ← hl]

theorem write_fresh_read_old (h : Heap α) (xs ys : List α) (c : Nat) (s' : Slice) (hs' : s'.arr < h.length) :
    ((h ++ [xs]).write ⟨h.length, 0, xs.length, c⟩ ys).read s' = h.read s' := by
  simp [Heap.write, Heap.read, List.getD_eq_getElem?_getD, List.getElem?_append_left hs']

variable {δ : Type}

/-- appending to a FULL slice (len = cap) allocates a fresh backing array -/
theorem append_full (h : Heap δ) (b : Slice) (d : δ) (hfull : b.len = b.cap) :
    h.append b [d] = (h ++ [h.read b ++ [d]], ⟨h.length, 0, b.len + 1, growCap b.cap (b.len + 1)⟩) := by
  have : ¬ (b.len + 1 ≤ b.cap) := by omega
  simp [Heap.append, this]

theorem read_take_le (h : Heap δ) (b : Slice) : (h.read b).length ≤ b.len := by
  simp [Heap.read]; omega

/-- a builder made by `New…()` (capacity 0) and at most two single `ThenWith…` calls is full, holds
    exactly those descriptors, and lives inside the heap -/
theorem chain_full (pre : List δ) (hlen : pre.length ≤ 2) :
    let r := thenWithChain (newBuilderCap 0 ([] : Heap δ)).1 (newBuilderCap 0 ([] : Heap δ)).2 pre
    r.2.len = r.2.cap ∧ r.1.read r.2 = pre ∧ r.2.arr < r.1.length := by
  match pre, hlen with
  | [], _ => simp [thenWithChain, newBuilderCap, Heap.read]
  | [a], _ => simp [thenWithChain, thenWith, newBuilderCap, Heap.append, Heap.read, growCap]
  | [a, b], _ => simp [thenWithChain, thenWith, newBuilderCap, Heap.append, Heap.read, growCap]
  | _ :: _ :: _ :: _, h => exact absurd h (by simp)

end FpgoVerif.C19
