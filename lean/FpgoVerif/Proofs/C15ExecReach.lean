import FpgoVerif.Proofs.C15Exec
import FpgoVerif.Model.C15
/-! The four component systems are closed under what the executor does: `Reach` is an executor invariant. -/
namespace FpgoVerif.C15

/-- the states of a directed schedule, exactly as `Exec.run` (= `handle`) folds them -/
def execStates {σ PC : Type} (ops : Ops σ PC) (e0 : Exec σ PC) (steps : List String) : Exec σ PC × List String :=
  steps.foldl (fun (acc : Exec σ PC × List String) tok =>
    let (e, o) := Exec.execStep ops acc.1 tok
    (e, o :: acc.2)) (e0, [])

theorem Mb.closed (comp : String) (cap : Nat) : Exec.Closed (Mb.ops comp) (Mb.Reach cap true) where
  gstep := fun {_ pc ch _ _} => Mb.Reach.step pc ch
  spawn := fun {_ pc _} => Mb.Reach.spawn pc
  gate := Mb.Reach.gate
  compact := fun {s} hr => (congrArg (Mb.Reach cap true) (Mb.compact_eq s)).mpr hr

theorem Bq.closed (c b : Nat) : Exec.Closed Bq.ops (Bq.Reach c b true true) where
  gstep := fun {_ pc ch _ _} => Bq.Reach.step pc ch
  spawn := fun {_ pc _} => Bq.Reach.spawn pc
  gate := id
  compact := fun {s} hr => (congrArg (Bq.Reach c b true true) (Bq.compact_eq s)).mpr hr

theorem Co.closed : Exec.Closed Co.ops (Co.Reach 5 true) where
  gstep := fun {_ pc ch _ _} => Co.Reach.step pc ch
  spawn := fun {_ pc _} => Co.Reach.spawn pc
  gate := id
  compact := fun {s} hr => (congrArg (Co.Reach 5 true) (Co.compact_eq s)).mpr hr

theorem Pl.closed (cap : Nat) (qc : Bool) : Exec.Closed Pl.ops (Pl.Reach cap qc true) where
  gstep := fun {_ pc _ _ _} hr hg => by
    -- the executor's `gstep` is the component's with the timer off; only the printed result differs
    obtain ⟨_, h, hp⟩ := Option.map_eq_some_iff.1 hg
    cases hp
    exact Pl.Reach.step pc false hr h
  spawn := fun {_ pc _} => Pl.Reach.spawn pc
  gate := Pl.Reach.gate
  compact := fun {s} hr => (congrArg (Pl.Reach cap qc true) (Pl.compact_eq s)).mpr hr

end FpgoVerif.C15
