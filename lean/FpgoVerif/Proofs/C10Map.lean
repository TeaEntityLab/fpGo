import FpgoVerif.Proofs.C10Log
/-! C10 — Map(fn) as a system of two publishers.

    Origin `P` and derived publisher `Q = P.Map(fn)`: `Map` subscribes to `P` a forwarding subscription `x` whose
    callback is `Q.Publish(fn v)` (closing theorem `C10_skel_Map`).  `MapSys` runs the two publisher transition
    systems of `Model/C10Core.lean` side by side — every action of either one is a `step true` of that publisher,
    so all single-publisher theorems apply to `P` and to `Q` — and adds the one coupling: each delivery of `P` to `x`
    creates the obligation to begin `Q.Publish(fn v)`; it is discharged by `fwdBegin`, which any goroutine may perform
    at any later time and in any order relative to other obligations (an over-approximation of "the goroutine that
    runs the callback", sound for the counting statements proved here). -/
namespace FpgoVerif.C10

structure MapSys where
  P : State                      -- the origin
  Q : State                      -- the derived publisher `P.Map(fn)`
  x : Nat                        -- id (on P) of the forwarding subscription; 0 = Map has not been called yet
  pend : List (Nat × Int)        -- deliveries of P to x whose `Q.Publish(fn v)` has not begun yet: (call id on P, v)
  fwd : List (Nat × Int × Nat)   -- ghost: forwards begun: (call id on P, v, call id on Q), newest first

def MapSys.init : MapSys := ⟨C10.init, C10.init, 0, [], []⟩

inductive MAct
  | map (t : Nat)                          -- `P.Map(fn)`: subscribe the forwarding subscription
  | p (a : Act)                            -- any action on the origin
  | q (a : Act)                            -- any action on the derived publisher
  | fwdBegin (t : Nat) (p : Nat) (v : Int) -- the callback of x for the delivery (p, v) calls `Q.Publish(fn v)`

/-- the deliveries to subscription `x` recorded in a log, as (call id, value) -/
def xlog (x : Nat) (log : List (Nat × Nat × Int × Bool)) : List (Nat × Int) :=
  (log.filter (fun e => e.2.1 = x)).map (fun e => (e.1, e.2.2.1))

def mstep (grow : Nat → Nat) (fn : Int → Int) (m : MapSys) : MAct → Option MapSys
  | .map t =>
    if m.x = 0 then (step true grow m.P (.subscribe t)).map (fun P' => { m with P := P', x := m.P.nextId }) else none
  | .p a => (step true grow m.P a).map fun P' =>
      { m with P := P', pend := m.pend ++ xlog m.x (P'.log.take (P'.log.length - m.P.log.length)) }
  | .q a => (step true grow m.Q a).map fun Q' => { m with Q := Q' }
  | .fwdBegin t p v =>
    if (p, v) ∈ m.pend then (step true grow m.Q (.pubBegin t (fn v))).map fun Q' =>
        { m with Q := Q', pend := m.pend.erase (p, v), fwd := (p, v, m.Q.nextPid) :: m.fwd }
    else none

inductive MReach (grow : Nat → Nat) (fn : Int → Int) : MapSys → Prop
  | init : MReach grow fn MapSys.init
  | step {m m' : MapSys} (a : MAct) : MReach grow fn m → mstep grow fn m a = some m' → MReach grow fn m'

theorem xlog_append (x : Nat) (a b : List (Nat × Nat × Int × Bool)) : xlog x (a ++ b) = xlog x a ++ xlog x b := by
  simp [xlog]

theorem xlog_eq_nil {x : Nat} {log : List (Nat × Nat × Int × Bool)} (h : ∀ e ∈ log, e.2.1 ≠ x) : xlog x log = [] := by
  unfold xlog
  rw [List.filter_eq_nil_iff.mpr fun e he => by simpa using h e he]
  rfl

/-- `perm` (every delivery of `P` to `x` is owed or begun, once) is clause (1) of `C10_map_compose` -/
structure MInv (grow : Nat → Nat) (fn : Int → Int) (m : MapSys) : Prop where
  rp : Reach grow m.P
  rq : Reach grow m.Q
  xlt : m.x < m.P.nextId
  perm : (xlog m.x m.P.log).Perm (m.pend ++ m.fwd.map (fun e => (e.1, e.2.1)))
  qlt : ∀ e ∈ m.fwd, e.2.2 < m.Q.nextPid
  qnd : (m.fwd.map (fun e => e.2.2)).Nodup
  qlive : ∀ e ∈ m.fwd, ∀ u f, .pub f ∈ m.Q.stacks u → f.pid = e.2.2 → f.val = fn e.2.1
  qfin : ∀ e ∈ m.fwd, ∀ r ∈ m.Q.ended, r.f.pid = e.2.2 → r.f.val = fn e.2.1

theorem MInv_init (grow : Nat → Nat) (fn : Int → Int) : MInv grow fn MapSys.init :=
  ⟨.init, .init, by simp [MapSys.init, C10.init], by simp [MapSys.init, C10.init, xlog], by simp [MapSys.init],
   by simp [MapSys.init], by simp [MapSys.init], by simp [MapSys.init]⟩

theorem qfacts_step {grow : Nat → Nat} {fn : Int → Int} {Q Q' : State} {a : Act} {fwd : List (Nat × Int × Nat)}
    (hs : step true grow Q a = some Q')
    (qlt : ∀ e ∈ fwd, e.2.2 < Q.nextPid)
    (qlive : ∀ e ∈ fwd, ∀ u f, .pub f ∈ Q.stacks u → f.pid = e.2.2 → f.val = fn e.2.1)
    (qfin : ∀ e ∈ fwd, ∀ r ∈ Q.ended, r.f.pid = e.2.2 → r.f.val = fn e.2.1) :
    (∀ e ∈ fwd, e.2.2 < Q'.nextPid) ∧
    (∀ e ∈ fwd, ∀ u f, .pub f ∈ Q'.stacks u → f.pid = e.2.2 → f.val = fn e.2.1) ∧
    (∀ e ∈ fwd, ∀ r ∈ Q'.ended, r.f.pid = e.2.2 → r.f.val = fn e.2.1) := by
  have hmono := (step_log hs).2.1
  refine ⟨fun e he => Nat.lt_of_lt_of_le (qlt e he) hmono, ?_, ?_⟩
  · intro e he u f' hf' hpid
    rcases frames_step hs u f' hf' with ⟨f, hf, hp, hv⟩ | ⟨hp, _⟩
    · rw [← hv]; exact qlive e he u f hf (hp.trans hpid)
    · have := qlt e he; omega
  · intro e he r hr hpid
    rcases ended_step hs r hr with h | ⟨u, h⟩
    · exact qfin e he r h hpid
    · exact qlive e he u r.f h hpid

theorem MInv_step {grow : Nat → Nat} {fn : Int → Int} {m m' : MapSys} (a : MAct) (inv : MInv grow fn m)
    (hs : mstep grow fn m a = some m') : MInv grow fn m' := by
  cases a with
  | map t =>
    simp only [mstep] at hs
    split at hs
    · rename_i hx0
      obtain ⟨P', hP, rfl⟩ := Option.map_eq_some_iff.1 hs
      have hlog : P'.log = m.P.log ∧ P'.nextId = m.P.nextId + 1 := by
        simp only [step] at hP
        split at hP <;> cases hP
        exact ⟨rfl, rfl⟩
      -- no delivery has gone to subscription 0 or to the id not handed out yet, so nothing is pending or forwarded
      have hsid := log_sid_lt grow inv.rp
      have hp := inv.perm
      rw [hx0, xlog_eq_nil fun e he => Nat.ne_of_gt (hsid e he).1] at hp
      have hemp := List.append_eq_nil_iff.mp hp.symm.eq_nil
      refine ⟨Reach.step _ inv.rp hP, inv.rq, by show m.P.nextId < P'.nextId; omega, ?_, inv.qlt, inv.qnd, inv.qlive, inv.qfin⟩
      show (xlog m.P.nextId P'.log).Perm (m.pend ++ _)
      rw [hlog.1, xlog_eq_nil fun e he => Nat.ne_of_lt (hsid e he).2, hemp.1, hemp.2]
      exact .nil
    · cases hs
  | p a =>
    simp only [mstep] at hs
    obtain ⟨P', hP, rfl⟩ := Option.map_eq_some_iff.1 hs
    obtain ⟨hn, _, hl⟩ := step_log hP
    refine ⟨Reach.step _ inv.rp hP, inv.rq, Nat.lt_of_lt_of_le inv.xlt hn, ?_, inv.qlt, inv.qnd, inv.qlive, inv.qfin⟩
    show (xlog m.x P'.log).Perm ((m.pend ++ xlog m.x (P'.log.take (P'.log.length - m.P.log.length))) ++ _)
    -- the step's new log entries `new` (none or one) are what `take` cuts off
    obtain ⟨new, hnew⟩ : ∃ new, P'.log = new ++ m.P.log := by
      rcases hl with hl | ⟨_, _, _, _, _, _, hl⟩
      · exact ⟨[], hl⟩
      · exact ⟨[_], hl⟩
    rw [hnew, List.length_append, Nat.add_sub_cancel, List.take_left, xlog_append]
    refine (List.Perm.append_left _ inv.perm).trans ?_
    rw [← List.append_assoc]
    exact List.Perm.append_right _ List.perm_append_comm
  | q a =>
    simp only [mstep] at hs
    obtain ⟨Q', hQ, rfl⟩ := Option.map_eq_some_iff.1 hs
    obtain ⟨h1, h2, h3⟩ := qfacts_step (fn := fn) hQ inv.qlt inv.qlive inv.qfin
    exact ⟨inv.rp, Reach.step _ inv.rq hQ, inv.xlt, inv.perm, h1, inv.qnd, h2, h3⟩
  | fwdBegin t p v =>
    simp only [mstep] at hs
    split at hs
    · next hmem =>
      obtain ⟨Q', hQ, rfl⟩ := Option.map_eq_some_iff.1 hs
      obtain ⟨h1, h2, h3⟩ := qfacts_step (fn := fn) hQ inv.qlt inv.qlive inv.qfin
      have hnp : Q'.nextPid = m.Q.nextPid + 1 := by
        simp only [step] at hQ
        split at hQ <;> cases hQ
        rfl
      have pinv := PInv_reach grow inv.rq
      refine ⟨inv.rp, Reach.step _ inv.rq hQ, inv.xlt, ?_, ?_, ?_, ?_, ?_⟩
      · show (xlog m.x m.P.log).Perm (m.pend.erase (p, v) ++ ((p, v) :: m.fwd.map (fun e => (e.1, e.2.1))))
        refine inv.perm.trans ((List.Perm.append_right _ (List.perm_cons_erase hmem)).trans ?_)
        exact List.perm_middle.symm
      · intro e he
        rcases List.mem_cons.mp he with rfl | he
        · show m.Q.nextPid < Q'.nextPid; omega
        · exact h1 e he
      · show ((m.Q.nextPid) :: m.fwd.map (fun e => e.2.2)).Nodup
        refine List.nodup_cons.mpr ⟨fun hm => ?_, inv.qnd⟩
        obtain ⟨e, he, heq⟩ := List.mem_map.mp hm
        exact Nat.lt_irrefl _ (heq ▸ inv.qlt e he)
      -- the new forward's call id is fresh: no older frame or finished call of `Q` carries it
      · intro e he u f' hf' hpid
        rcases List.mem_cons.mp he with rfl | he
        · rcases frames_step hQ u f' hf' with ⟨f, hf, hp, _⟩ | ⟨_, ha⟩
          · exact absurd (hp.trans hpid) (Nat.ne_of_lt (pinv.lt u f.pid (mem_framePids hf)))
          · injection ha with _ hv; exact hv.symm
        · exact h2 e he u f' hf' hpid
      · intro e he r hr hpid
        rcases List.mem_cons.mp he with rfl | he
        · rcases ended_step hQ r hr with h | ⟨u, h⟩
          · exact absurd hpid (Nat.ne_of_lt (pinv.recLt r h))
          · exact absurd hpid (Nat.ne_of_lt (pinv.lt u r.f.pid (mem_framePids h)))
        · exact h3 e he r hr hpid
    · cases hs

theorem MInv_reach {grow : Nat → Nat} {fn : Int → Int} {m : MapSys} (h : MReach grow fn m) : MInv grow fn m := by
  induction h with
  | init => exact MInv_init grow fn
  | step a _ hs ih => exact MInv_step a ih hs

theorem count_xlog (x p : Nat) (v : Int) (log : List (Nat × Nat × Int × Bool)) :
    (xlog x log).count (p, v) =
      ((log.filter (fun e => e.1 = p ∧ e.2.1 = x)).map (fun e => e.2.2.1)).count v := by
  -- both sides count the log entries with call id `p`, subscription `x` and value `v`
  simp only [xlog, List.count_eq_countP, List.countP_map, List.countP_filter]
  apply List.countP_congr
  intro e _
  simp only [Function.comp, beq_iff_eq, Prod.mk.injEq, Bool.and_eq_true, decide_eq_true_eq]
  exact ⟨fun h => ⟨h.1.2, h.1.1, h.2⟩, fun h => ⟨⟨h.2.1, h.1⟩, h.2.2⟩⟩

def mrun (grow : Nat → Nat) (fn : Int → Int) : MapSys → List MAct → Option MapSys
  | m, [] => some m
  | m, a :: as => match mstep grow fn m a with
    | some m' => mrun grow fn m' as
    | none => none

theorem mreach_of_run (grow : Nat → Nat) (fn : Int → Int) (acts : List MAct) :
    ∀ m0 m, MReach grow fn m0 → mrun grow fn m0 acts = some m → MReach grow fn m := by
  induction acts with
  | nil => intro m0 m r h; cases h; exact r
  | cons a as ih =>
    intro m0 m r h
    simp only [mrun] at h
    split at h
    · next m1 hs => exact ih m1 m (MReach.step a r hs) h
    · cases h

/-- (x, pending forwards, begun forwards, (value, deliveries) of Q's finished calls, Q's delivery log) -/
def msummary (o : Option MapSys) :
    Option (Nat × List (Nat × Int) × List (Nat × Int × Nat) × List (Int × List Nat) × List (Nat × Nat × Int × Bool)) :=
  o.map (fun m => (m.x, m.pend, m.fwd, m.Q.ended.map (fun r => (r.f.val, r.f.dl)), m.Q.log))

end FpgoVerif.C10
