import FpgoVerif.Proofs.C10Heap
/-! C10: the invariant of the transition system and its preservation by every
    atomic step of the repaired code, for every growth policy. -/
namespace FpgoVerif.C10

theorem count_of_sorted {l : List Nat} (h : l.Pairwise (· < ·)) (x : Nat) :
    l.count x = if x ∈ l then 1 else 0 := by
  have hnd : l.Nodup := h.imp (fun hab => Nat.ne_of_lt hab)
  exact hnd.count

structure StaticOK (f : PubF) : Prop where
  sorted : f.snap.Pairwise (· < ·)
  old : ∀ x ∈ f.snap, 0 < x ∧ x < f.n0
  notDone : ∀ x ∈ f.done0, x ∉ f.snap

theorem StaticOK.sublist {f : PubF} (st : StaticOK f) {l : List Nat} (hsub : l.Sublist f.snap) :
    (∀ x, l.count x ≤ 1) ∧ l.Pairwise (· < ·) ∧ (∀ x ∈ f.done0, l.count x = 0) ∧ (∀ x ∈ l, 0 < x ∧ x < f.n0) := by
  have hs := st.sorted.sublist hsub
  refine ⟨fun x => ?_, hs, fun x hx => ?_, fun x hx => st.old x (hsub.subset hx)⟩
  · rw [count_of_sorted hs]; split <;> omega
  · rw [count_of_sorted hs, if_neg fun h => st.notDone x hx (hsub.subset h)]

/-- a running Publish: its snapshot header is protected and still denotes the ghost snapshot; what it
    has delivered so far is exactly the first `k` elements of the snapshot, minus the subscriptions without OnNext -/
structure PubOK (hp : Heap) (subs : Hdr) (n : Nat) (sil : Nat → Bool) (f : PubF) : Prop where
  prot : Prot hp subs f.h
  same : content hp f.h = f.snap
  len : f.snap.length = f.h.len
  k_le : f.k ≤ f.h.len
  dl : f.dl = (f.snap.take f.k).filter (fun x => !sil x)
  n0_le : f.n0 ≤ n
  gone : ∀ x, 0 < x → x < f.n0 → x ∉ f.snap → x ∉ content hp subs
  static : StaticOK f

def FrameOK (hp : Heap) (subs : Hdr) (n : Nat) (sil : Nat → Bool) : Frame → Prop
  | .cb => True
  | .unsub x => 0 < x ∧ x < n
  | .pub f => PubOK hp subs n sil f

structure RecOK (n : Nat) (sil : Nat → Bool) (r : PubRec) : Prop where
  all : r.f.dl = r.f.snap.filter (fun x => !sil x)
  n0_le : r.f.n0 ≤ n
  static : StaticOK r.f
  kept : ∀ x, 0 < x → x < r.f.n0 → x ∈ r.regEnd → x ∈ r.f.snap

structure Inv (s : State) : Prop where
  wf : WF s.heap s.subs s.nextId
  frames : ∀ t, ∀ fr ∈ s.stacks t, FrameOK s.heap s.subs s.nextId s.silent fr
  done : ∀ x ∈ s.unsubDone, 0 < x ∧ x < s.nextId ∧ x ∉ content s.heap s.subs
  ended : ∀ r ∈ s.ended, RecOK s.nextId s.silent r
  hq : s.posted.reverse = s.hlog.reverse ++ s.mailbox

theorem PubOK.ext {hp subs n hp' subs' n' sil f} (e : Ext hp subs n hp' subs' n') (p : PubOK hp subs n sil f) :
    PubOK hp' subs' n' sil f := by
  have ⟨hc, hpr⟩ := e.frozen f.h p.prot
  exact ⟨hpr, by rw [hc]; exact p.same, p.len, p.k_le, p.dl, Nat.le_trans p.n0_le e.n_le,
    fun x h0 hx hs => e.gone x h0 (Nat.lt_of_lt_of_le hx p.n0_le) (p.gone x h0 hx hs), p.static⟩

theorem FrameOK.ext {hp subs n hp' subs' n' sil fr} (e : Ext hp subs n hp' subs' n') (p : FrameOK hp subs n sil fr) :
    FrameOK hp' subs' n' sil fr := by
  cases fr with
  | cb => trivial
  | unsub x => exact ⟨p.1, Nat.lt_of_lt_of_le p.2 e.n_le⟩
  | pub f => exact PubOK.ext e p

theorem filter_upd_sil {l : List Nat} {sil : Nat → Bool} {n : Nat} (h : ∀ x ∈ l, x < n) :
    l.filter (fun x => !upd sil n true x) = l.filter (fun x => !sil x) := by
  apply List.filter_congr
  intro x hx
  rw [upd_other _ _ _ _ (Nat.ne_of_lt (h x hx))]

theorem PubOK.sil {hp subs n sil f} (p : PubOK hp subs n sil f) : PubOK hp subs n (upd sil n true) f := by
  refine ⟨p.prot, p.same, p.len, p.k_le, ?_, p.n0_le, p.gone, p.static⟩
  rw [p.dl]
  exact (filter_upd_sil (fun x hx =>
    Nat.lt_of_lt_of_le (p.static.old x ((List.take_sublist _ _).subset hx)).2 p.n0_le)).symm

theorem FrameOK.sil {hp subs n sil fr} (p : FrameOK hp subs n sil fr) : FrameOK hp subs n (upd sil n true) fr := by
  cases fr with
  | cb => trivial
  | unsub x => exact p
  | pub f => exact PubOK.sil p

theorem RecOK.mono {n n' sil r} (p : RecOK n sil r) (h : n ≤ n') : RecOK n' sil r :=
  ⟨p.all, Nat.le_trans p.n0_le h, p.static, p.kept⟩

theorem RecOK.sil {n sil r} (p : RecOK n sil r) : RecOK n (upd sil n true) r := by
  refine ⟨?_, p.n0_le, p.static, p.kept⟩
  rw [p.all]
  exact (filter_upd_sil (fun x hx => Nat.lt_of_lt_of_le (p.static.old x hx).2 p.n0_le)).symm

theorem Inv_init : Inv init := by
  refine ⟨⟨by decide, by decide, by decide, by simp [init, content, cellsOf], ?_, by decide⟩, ?_, ?_, ?_, rfl⟩
  · intro x hx; simp [init, content, cellsOf] at hx
  · intro t fr hfr; simp [init] at hfr
  · intro x hx; simp [init] at hx
  · intro r hr; simp [init] at hr

theorem frames_upd {P : Frame → Prop} {st : Nat → List Frame} {t : Nat} {new : List Frame}
    (hold : ∀ u, ∀ fr ∈ st u, P fr) (hnew : ∀ fr ∈ new, P fr) :
    ∀ u, ∀ fr ∈ upd st t new u, P fr := by
  intro u fr hfr
  by_cases hu : u = t
  · subst hu; rw [upd_same] at hfr; exact hnew fr hfr
  · rw [upd_other _ _ _ _ hu] at hfr; exact hold u fr hfr

theorem readCell_of_content {hp : Heap} {h : Hdr} {snap : List Nat} {k : Nat}
    (hc : content hp h = snap) (hk : k < h.len) (hl : snap.length = h.len) :
    snap.take (k + 1) = snap.take k ++ [readCell hp h k] := by
  rw [List.take_add_one]
  have hks : k < snap.length := by omega
  have h1 : snap[k]? = some (readCell hp h k) := by
    unfold readCell
    rw [← hc] at hks ⊢
    unfold content at hks ⊢
    rw [List.getElem?_take]
    simp only [hk, if_true, List.getD_eq_getElem?_getD]
    have : k < (cellsOf hp h.arr).length := by
      rw [List.length_take] at hks; omega
    rw [List.getElem?_eq_getElem this]; simp
  rw [h1]; rfl

theorem Inv_step (grow : Nat → Nat) {s s' : State} (a : Act) (inv : Inv s)
    (hs : step true grow s a = some s') : Inv s' := by
  cases a with
  | subscribe t =>
    simp only [step] at hs
    split at hs
    · cases hs
      have ⟨w', hc, e⟩ := appendSub_spec grow inv.wf
      refine ⟨w', fun u fr hfr => FrameOK.ext e (inv.frames u fr hfr), ?_,
        fun r hr => (inv.ended r hr).mono (Nat.le_succ _), inv.hq⟩
      intro x hx
      have ⟨h0, hlt, hn⟩ := inv.done x hx
      exact ⟨h0, Nat.lt_succ_of_lt hlt, e.gone x h0 hlt hn⟩
    · cases hs
  | subscribeNil t =>
    simp only [step] at hs
    split at hs
    · cases hs
      have ⟨w', hc, e⟩ := appendSub_spec grow inv.wf
      refine ⟨w', fun u fr hfr => FrameOK.ext e (inv.frames u fr hfr).sil, ?_,
        fun r hr => ((inv.ended r hr).sil).mono (Nat.le_succ _), inv.hq⟩
      intro x hx
      have ⟨h0, hlt, hn⟩ := inv.done x hx
      exact ⟨h0, Nat.lt_succ_of_lt hlt, e.gone x h0 hlt hn⟩
    · cases hs
  | unsubBegin t x =>
    simp only [step] at hs
    split at hs
    · rename_i hc
      cases hs
      exact { inv with frames := frames_upd inv.frames (List.forall_mem_cons.2 ⟨hc.2, inv.frames t⟩) }
    · cases hs
  | unsubStep t =>
    simp only [step] at hs
    split at hs
    · rename_i x rest hst
      split at hs
      · rename_i i hi
        have ⟨hil, _⟩ := findIdx_some hi
        rw [inv.wf.length_content] at hil
        simp only [if_true] at hs
        cases hs
        have ⟨w', hc, e⟩ := removeCopy_spec inv.wf i hil
        refine ⟨w', fun u fr hfr => FrameOK.ext e (inv.frames u fr hfr), ?_, inv.ended, inv.hq⟩
        intro y hy
        have ⟨h0, hlt, hn⟩ := inv.done y hy
        exact ⟨h0, hlt, e.gone y h0 hlt hn⟩
      · rename_i hi
        cases hs
        obtain ⟨hfx, hrest⟩ := List.forall_mem_cons.1 (hst ▸ inv.frames t)
        exact { inv with
          frames := frames_upd inv.frames hrest
          done := List.forall_mem_cons.2 ⟨⟨hfx.1, hfx.2, findIdx_none hi⟩, inv.done⟩ }
    · cases hs
  | pubBegin t v =>
    simp only [step] at hs
    split at hs
    · cases hs
      refine { inv with frames := frames_upd inv.frames (List.forall_mem_cons.2 ⟨?_, inv.frames t⟩) }
      exact ⟨⟨inv.wf.arr_lt, fun _ => Nat.le_refl _⟩, rfl, inv.wf.length_content, Nat.zero_le _, by simp,
        Nat.le_refl _, fun x _ _ hn => hn,
        ⟨inv.wf.sorted, inv.wf.pos, fun x hx => (inv.done x hx).2.2⟩⟩
    · cases hs
  | deliver t =>
    simp only [step] at hs
    split at hs
    · rename_i f rest hst
      have ⟨hpub, hrest⟩ := List.forall_mem_cons.1 (hst ▸ inv.frames t)
      have hf : PubOK s.heap s.subs s.nextId s.silent f := hpub
      split at hs
      · rename_i hk
        have hstep := readCell_of_content hf.same hk hf.len
        split at hs
        · -- the subscription has no OnNext: passed over
          rename_i hsil
          cases hs
          refine { inv with frames := frames_upd inv.frames (List.forall_mem_cons.2 ⟨?_, hrest⟩) }
          refine ⟨hf.prot, hf.same, hf.len, hk, ?_, hf.n0_le, hf.gone, ⟨hf.static.sorted, hf.static.old, hf.static.notDone⟩⟩
          show f.dl = (f.snap.take (f.k + 1)).filter _
          rw [hstep, List.filter_append, ← hf.dl]
          simp [hsil]
        rename_i hsil
        have hf' : PubOK s.heap s.subs s.nextId s.silent
            { f with k := f.k + 1, dl := f.dl ++ [readCell s.heap f.h f.k] } :=
          ⟨hf.prot, hf.same, hf.len, hk, by
            show f.dl ++ _ = (f.snap.take (f.k + 1)).filter _
            rw [hstep, List.filter_append, ← hf.dl]
            simp [hsil], hf.n0_le, hf.gone, ⟨hf.static.sorted, hf.static.old, hf.static.notDone⟩⟩
        split at hs
        · cases hs
          refine { inv with frames := frames_upd inv.frames (List.forall_mem_cons.2 ⟨hf', hrest⟩), hq := ?_ }
          show (State.posted { s with log := (f.pid, readCell s.heap f.h f.k, f.val, true) :: s.log }).reverse = _
          have : State.posted { s with log := (f.pid, readCell s.heap f.h f.k, f.val, true) :: s.log }
              = (f.pid, readCell s.heap f.h f.k, f.val) :: s.posted := by simp [State.posted]
          rw [this, List.reverse_cons, inv.hq, List.append_assoc]
        · cases hs
          refine { inv with
            frames := frames_upd inv.frames (List.forall_mem_cons.2 ⟨trivial, List.forall_mem_cons.2 ⟨hf', hrest⟩⟩), hq := ?_ }
          show (State.posted _).reverse = _
          simpa [State.posted] using inv.hq
      · cases hs
    · cases hs
  | cbReturn t =>
    simp only [step] at hs
    split at hs
    · rename_i rest hst
      cases hs
      exact { inv with frames := frames_upd inv.frames (List.forall_mem_cons.1 (hst ▸ inv.frames t)).2 }
    · cases hs
  | pubEnd t =>
    simp only [step] at hs
    split at hs
    · rename_i f rest hst
      have ⟨hpub, hrest⟩ := List.forall_mem_cons.1 (hst ▸ inv.frames t)
      have hf : PubOK s.heap s.subs s.nextId s.silent f := hpub
      split at hs
      · cases hs
      · rename_i hk
        cases hs
        refine { inv with
          frames := frames_upd inv.frames hrest
          ended := List.forall_mem_cons.2 ⟨⟨?_, hf.n0_le, hf.static, ?_⟩, inv.ended⟩ }
        · show f.dl = f.snap.filter _
          rw [hf.dl, List.take_of_length_le]
          have := hf.len; have := hf.k_le; omega
        · exact fun x h0 hx hmem => Classical.byContradiction fun hn => hf.gone x h0 hx hn hmem
    · cases hs
  | setSubOn t b =>
    simp only [step] at hs
    split at hs
    · cases hs
      exact { inv with }
    · cases hs
  | hrun t =>
    simp only [step] at hs
    split at hs
    · rename_i m rest hst hmb
      cases hs
      refine { inv with frames := frames_upd inv.frames (List.forall_mem_cons.2 ⟨trivial, fun _ h => nomatch h⟩), hq := ?_ }
      show s.posted.reverse = (m :: s.hlog).reverse ++ rest
      rw [inv.hq, hmb, List.reverse_cons, List.append_assoc]; rfl
    · cases hs

theorem Inv_reach (grow : Nat → Nat) {s : State} (r : Reach grow s) : Inv s := by
  induction r with
  | init => exact Inv_init
  | step a _ hs ih => exact Inv_step grow a ih hs

theorem reach_of_run (grow : Nat → Nat) (acts : List Act) :
    ∀ s0 s, Reach grow s0 → run true grow s0 acts = some s → Reach grow s := by
  induction acts with
  | nil => intro s0 s r h; cases h; exact r
  | cons a as ih =>
    intro s0 s r h
    simp only [run] at h
    split at h
    · next s1 hs => exact ih s1 s (Reach.step a r hs) h
    · cases h

end FpgoVerif.C10
