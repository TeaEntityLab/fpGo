import FpgoVerif.Model.C20
/-! The CurryDef transition system of C20: the invariant `CInv`, frozen after done (`Quiet`), the sequential `Call`
    against the Spec, and what `lockOrder` says about lost, duplicated and reordered Calls. -/

namespace FpgoVerif.C20

/-- the argument lists `fn` must have seen after the accepted calls `h`: every non-empty prefix, flattened -/
def prefixesFrom (acc : List Int) : List (List Int) → List (List Int)
  | [] => []
  | a :: t => (acc ++ a) :: prefixesFrom (acc ++ a) t

def prefixes (h : List (List Int)) : List (List Int) := prefixesFrom [] h

theorem prefixesFrom_snoc (acc : List Int) (h : List (List Int)) (a : List Int) :
    prefixesFrom acc (h ++ [a]) = prefixesFrom acc h ++ [acc ++ (h ++ [a]).flatten] := by
  induction h generalizing acc with
  | nil => simp [prefixesFrom]
  | cons b t ih => simp [prefixesFrom, ih, List.append_assoc]

theorem prefixes_snoc (h : List (List Int)) (a : List Int) :
    prefixes (h ++ [a]) = prefixes h ++ [(h ++ [a]).flatten] := by
  simpa [prefixes] using prefixesFrom_snoc [] h a

theorem prefixesFrom_length (acc : List Int) (h : List (List Int)) : (prefixesFrom acc h).length = h.length := by
  induction h generalizing acc with
  | nil => rfl
  | cons b t ih => simp [prefixesFrom, ih]

theorem prefixesFrom_getElem? (acc : List Int) (h : List (List Int)) (i : Nat) (hi : i < h.length) :
    (prefixesFrom acc h)[i]? = some (acc ++ (h.take (i + 1)).flatten) := by
  induction h generalizing acc i with
  | nil => simp at hi
  | cons b t ih =>
    cases i with
    | zero => simp [prefixesFrom]
    | succ j =>
      simp only [prefixesFrom, List.getElem?_cons_succ]
      rw [ih (acc ++ b) j (by simpa using hi)]
      simp [List.append_assoc]

theorem prefixes_getElem? (h : List (List Int)) (i : Nat) (hi : i < h.length) :
    (prefixes h)[i]? = some ((h.take (i + 1)).flatten) := by
  simpa [prefixes] using prefixesFrom_getElem? [] h i hi

/-- what holds of the ghost fields, by phase of the current call -/
def CShape (c : Curry) : Prop :=
  match c.cur with
  | some (.checking, a) =>
    ∃ lo, c.lockOrder = lo ++ [a] ∧ c.hist.Sublist lo ∧ c.log = prefixes c.hist ∧ (c.isDone = false → c.hist = lo)
  | some (.appending, a) =>
    ∃ lo, c.lockOrder = lo ++ [a] ∧ c.hist = lo ∧ c.log = prefixes c.hist
  | some (.calling, a) =>
    ∃ lo, c.lockOrder = lo ++ [a] ∧ c.hist = lo ++ [a] ∧ c.log = prefixes lo
  | _ => c.hist.Sublist c.lockOrder ∧ c.log = prefixes c.hist ∧ (c.isDone = false → c.hist = c.lockOrder)

/-- second clause: `fn` has been invoked for every accepted call, except that the call in its `calling` phase is
    accepted but not yet invoked -/
theorem CShape.common {c : Curry} (hs : CShape c) :
    c.hist.Sublist c.lockOrder ∧
    (c.log = prefixes c.hist ∨ ∃ lo a, c.cur = some (.calling, a) ∧ c.hist = lo ++ [a] ∧ c.log = prefixes lo) ∧
    (c.cur = none → c.isDone = false → c.hist = c.lockOrder) := by
  unfold CShape at hs
  split at hs <;> rename_i hcur
  · obtain ⟨lo, h1, h2, h3, _⟩ := hs
    exact ⟨h1 ▸ h2.trans (List.sublist_append_left lo _), .inl h3, fun h => nomatch hcur.symm.trans h⟩
  · obtain ⟨lo, h1, h2, h3⟩ := hs
    exact ⟨h1 ▸ h2 ▸ List.sublist_append_left lo _, .inl h3, fun h => nomatch hcur.symm.trans h⟩
  · obtain ⟨lo, h1, h2, h3⟩ := hs
    exact ⟨h1 ▸ h2 ▸ List.Sublist.refl _, .inr ⟨lo, _, hcur, h2, h3⟩, fun h => nomatch hcur.symm.trans h⟩
  · exact ⟨hs.1, .inl hs.2.1, fun _ => hs.2.2⟩

structure CInv (fn : CurryFn) (c : Curry) : Prop where
  args_eq : c.args = c.hist.flatten
  result_eq : c.result = match c.log.getLast? with | none => 0 | some l => (fn l).1
  shape : CShape c

theorem cinv_init (fn : CurryFn) (scripts) : CInv fn (Curry.init scripts) :=
  ⟨rfl, rfl, by simp [CShape, Curry.init, prefixes, prefixesFrom]⟩

theorem cinv_acquire {fn : CurryFn} {c c' : Curry} {t : Nat} (h : CInv fn c) (he : c.acquire t = some c') :
    CInv fn c' := by
  unfold Curry.acquire at he
  split at he
  · rename_i hcur _
    injection he with he; subst he
    have hs := h.shape
    simp only [CShape, hcur] at hs
    exact ⟨h.args_eq, h.result_eq, c.lockOrder, rfl, hs.1, hs.2.1, hs.2.2⟩
  · cases he

theorem cinv_markDone {fn : CurryFn} {c : Curry} (h : CInv fn c) : CInv fn c.markDone := by
  refine ⟨h.args_eq, h.result_eq, ?_⟩
  have hs := h.shape
  unfold CShape at hs ⊢
  simp only [Curry.markDone]
  split <;> rename_i hcur <;> simp only [hcur] at hs
  · obtain ⟨lo, h1, h2, h3, _⟩ := hs; exact ⟨lo, h1, h2, h3, by simp⟩
  · exact hs
  · exact hs
  · exact ⟨hs.1, hs.2.1, by simp⟩

theorem cinv_advance {fn : CurryFn} {c c' : Curry} (h : CInv fn c) (he : c.advance fn = some c') :
    CInv fn c' := by
  have hs := h.shape
  unfold Curry.advance at he
  split at he
  · cases he
  · -- checking
    rename_i a hcur
    injection he with he; subst he
    simp only [CShape, hcur] at hs
    obtain ⟨lo, h1, h2, h3, h4⟩ := hs
    refine ⟨h.args_eq, h.result_eq, ?_⟩
    cases hd : c.isDone with
    | true => exact ⟨h1 ▸ h2.trans (List.sublist_append_left lo [a]), h3, nofun⟩
    | false => exact ⟨lo, h1, h4 hd, h3⟩
  · -- appending
    rename_i a hcur
    injection he with he; subst he
    simp only [CShape, hcur] at hs
    obtain ⟨lo, h1, h2, h3⟩ := hs
    exact ⟨by simp [h.args_eq], h.result_eq, lo, h1, by rw [h2], by rw [h3, h2]⟩
  · -- calling
    rename_i a hcur
    injection he with he; subst he
    simp only [CShape, hcur] at hs
    obtain ⟨lo, h1, h2, h3⟩ := hs
    refine ⟨h.args_eq, by simp, by rw [h1, h2]; exact List.Sublist.refl _, ?_, fun _ => by rw [h1, h2]⟩
    rw [h3, h2, prefixes_snoc, h.args_eq, h2]
  · -- unlocking
    rename_i a hcur
    injection he with he; subst he
    simp only [CShape, hcur] at hs
    exact ⟨h.args_eq, h.result_eq, hs⟩

theorem cinv_reach {fn : CurryFn} {c c' : Curry} (h : CInv fn c) (r : CReach fn c c') : CInv fn c' := by
  induction r with
  | refl => exact h
  | step _ st ih =>
    cases st with
    | acquire t he => exact cinv_acquire ih he
    | advance he => exact cinv_advance ih he
    | markDone => exact cinv_markDone ih

/-- done, and the current call (if any) has not passed / will not pass the done-check (the hypotheses of `C20_curry_frozen`) -/
def Quiet (c : Curry) : Prop :=
  c.isDone = true ∧ (c.cur = none ∨ ∃ a, c.cur = some (.checking, a) ∨ c.cur = some (.unlocking, a))

theorem quiet_step {fn : CurryFn} {c c' : Curry} (h : Quiet c) (st : CStep fn c c') :
    Quiet c' ∧ c'.args = c.args ∧ c'.result = c.result ∧ c'.log = c.log := by
  obtain ⟨hd, hc⟩ := h
  cases st with
  | acquire t he =>
    unfold Curry.acquire at he
    split at he
    · injection he with he; subst he
      exact ⟨⟨hd, Or.inr ⟨_, Or.inl rfl⟩⟩, rfl, rfl, rfl⟩
    · cases he
  | advance he =>
    unfold Curry.advance at he
    rcases hc with hc | ⟨a, hc | hc⟩ <;> simp only [hc] at he
    · cases he
    · injection he with he; subst he
      refine ⟨⟨hd, Or.inr ⟨a, Or.inr ?_⟩⟩, rfl, rfl, rfl⟩
      simp [hd]
    · injection he with he; subst he
      exact ⟨⟨hd, Or.inl rfl⟩, rfl, rfl, rfl⟩
  | markDone =>
    exact ⟨⟨rfl, hc⟩, rfl, rfl, rfl⟩

theorem quiet_reach {fn : CurryFn} {c c' : Curry} (h : Quiet c) (r : CReach fn c c') :
    Quiet c' ∧ c'.args = c.args ∧ c'.result = c.result ∧ c'.log = c.log := by
  induction r with
  | refl => exact ⟨h, rfl, rfl, rfl⟩
  | step _ st ih =>
    obtain ⟨hq, h1, h2, h3⟩ := ih
    obtain ⟨hq', g1, g2, g3⟩ := quiet_step hq st
    exact ⟨hq', g1.trans h1, g2.trans h2, g3.trans h3⟩

def Curry.abs (c : Curry) : Spec.CurryS := ⟨c.args, c.result, c.isDone, c.log⟩

theorem callSeq_eq (fn : CurryFn) (c : Curry) (a : List Int) (hcur : c.cur = none) :
    c.callSeq fn a =
      if c.isDone then { c with pending := [[]], lockOrder := c.lockOrder ++ [a] }
      else { c with
             pending := [[]], lockOrder := c.lockOrder ++ [a], args := c.args ++ a, hist := c.hist ++ [a],
             log := c.log ++ [c.args ++ a], result := (fn (c.args ++ a)).1, isDone := (fn (c.args ++ a)).2 } := by
  cases hd : c.isDone <;> simp [Curry.callSeq, Curry.acquire, Curry.finish, Curry.advance, hcur, hd]

theorem callSeq_abs (fn : CurryFn) (c : Curry) (a : List Int) (hcur : c.cur = none) :
    (c.callSeq fn a).abs = c.abs.call fn a ∧ (c.callSeq fn a).cur = none := by
  rw [callSeq_eq fn c a hcur]
  cases hd : c.isDone <;> simp [Curry.abs, Spec.CurryS.call, hcur, hd]

theorem reach_finish (fn : CurryFn) {c0 : Curry} : ∀ (n : Nat) (c : Curry), CReach fn c0 c → CReach fn c0 (Curry.finish fn n c)
  | 0, _, r => r
  | n + 1, c, r => by
    unfold Curry.finish
    cases h : c.advance fn with
    | none => exact r
    | some c' => exact reach_finish fn n c' (.step r (.advance h))

theorem callSeq_reach (fn : CurryFn) (c : Curry) (a : List Int) (hcur : c.cur = none) :
    CReach fn { c with pending := [[a]] } (c.callSeq fn a) := by
  have hacq : ({ c with pending := [[a]] } : Curry).acquire 0 =
      some { c with pending := [[]], cur := some (.checking, a), lockOrder := c.lockOrder ++ [a] } := by
    simp [Curry.acquire, hcur]
  simp only [Curry.callSeq, hacq]
  exact reach_finish fn 4 _ (.step (.refl _) (.acquire 0 hacq))

/-- used for the `cu` scripts with `Abs` and for the `cw` scripts with `CwRel` -/
theorem foldl_outs_eq {σ τ γ : Type} (R : σ → τ → Prop) (f : σ → γ → σ × String) (g : τ → γ → τ × String)
    (hstep : ∀ x y c, R x y → R (f x c).1 (g y c).1 ∧ (f x c).2 = (g y c).2) :
    ∀ (cs : List γ) (x : σ) (y : τ) (outs : List String), R x y →
      (cs.foldl (fun (acc : σ × List String) c => ((f acc.1 c).1, (f acc.1 c).2 :: acc.2)) (x, outs)).2 =
      (cs.foldl (fun (acc : τ × List String) c => ((g acc.1 c).1, (g acc.1 c).2 :: acc.2)) (y, outs)).2
  | [], _, _, _, _ => rfl
  | c :: cs, x, y, outs, h => by
    obtain ⟨h1, h2⟩ := hstep x y c h
    rw [List.foldl_cons, List.foldl_cons, h2]
    exact foldl_outs_eq R f g hstep cs _ _ _ h1

def Abs (c : Curry) (s : Spec.CurryS) : Prop := c.abs = s ∧ c.cur = none

theorem curryCall_refines (fn : CurryFn) {c : Curry} {s : Spec.CurryS} (h : Abs c s) (a : List Int) :
    Abs (curryCallImpl fn c a).1 (curryCallSpec fn s a).1 ∧ (curryCallImpl fn c a).2 = (curryCallSpec fn s a).2 := by
  obtain ⟨rfl, hcur⟩ := h
  refine ⟨callSeq_abs fn c a hcur, ?_⟩
  cases hd : c.isDone <;> simp [curryCallImpl, curryCallSpec, callSeq_eq fn c a hcur, Curry.abs, hd]

theorem curryTok_refines (fn : CurryFn) {c : Curry} {s : Spec.CurryS} (h : Abs c s) (tok : String) :
    Abs (curryTokImpl fn c tok).1 (curryTokSpec fn s tok).1 ∧ (curryTokImpl fn c tok).2 = (curryTokSpec fn s tok).2 := by
  unfold curryTokImpl curryTokSpec
  cases tok.startsWith "c:" with
  | true => exact curryCall_refines fn h _
  | false =>
    -- the other operations leave the state alone or mark it done on both sides
    obtain ⟨rfl, hcur⟩ := h
    generalize (tok == "d") = b1; generalize (tok == "r") = b2; generalize (tok == "i") = b3
    cases b1 <;> cases b2 <;> cases b3 <;> exact ⟨⟨rfl, hcur⟩, rfl⟩

/-- `cw` cases (caller-owned argument buffers): the simulation between the two-CurryDef states of the implementation
    model and of the Spec -/
def CwRel (st : CwState Curry) (ss : CwState Spec.CurryS) : Prop :=
  Abs st.a ss.a ∧ Abs st.b ss.b ∧ st.xs = ss.xs ∧ st.cap = ss.cap

theorem cwExec_refines (fn : CurryFn) (st : CwState Curry) (ss : CwState Spec.CurryS) (cmd : CwCmd) (h : CwRel st ss) :
    CwRel (cwExec (curryCallImpl fn) (fun c => c.result) st cmd).1
          (cwExec (curryCallSpec fn) (fun c => c.result) ss cmd).1 ∧
    (cwExec (curryCallImpl fn) (fun c => c.result) st cmd).2 =
      (cwExec (curryCallSpec fn) (fun c => c.result) ss cmd).2 := by
  obtain ⟨a, b, xs, cap⟩ := st
  obtain ⟨a', b', xs', cap'⟩ := ss
  obtain ⟨ha, hb, hx, hcap⟩ := h
  dsimp only at ha hb hx hcap
  subst hx hcap
  cases cmd with
  | callA l => obtain ⟨r1, r2⟩ := curryCall_refines fn ha (l.getD xs); exact ⟨⟨r1, hb, rfl, rfl⟩, r2⟩
  | callB l => obtain ⟨r1, r2⟩ := curryCall_refines fn hb (l.getD xs); exact ⟨⟨ha, r1, rfl, rfl⟩, r2⟩
  | resA => exact ⟨⟨ha, hb, rfl, rfl⟩, by rw [← ha.1]; rfl⟩
  | resB => exact ⟨⟨ha, hb, rfl, rfl⟩, by rw [← hb.1]; rfl⟩
  | _ => exact ⟨⟨ha, hb, rfl, rfl⟩, rfl⟩

/-! ### no Call is lost or duplicated -/

def Curry.pendingCount (c : Curry) : Nat := (c.pending.map List.length).sum

theorem sum_length_set {β : Type} (l : List (List β)) (t : Nat) (a : β) (rest : List β)
    (h : l[t]? = some (a :: rest)) :
    ((l.set t rest).map List.length).sum + 1 = (l.map List.length).sum := by
  induction l generalizing t with
  | nil => simp at h
  | cons x xs ih =>
    cases t with
    | zero =>
      simp at h; subst h
      simp [List.set]; omega
    | succ j =>
      simp at h
      have := ih j h
      simp only [List.set, List.map_cons, List.sum_cons]; omega

theorem count_step {fn : CurryFn} {c c' : Curry} (st : CStep fn c c') :
    c'.lockOrder.length + c'.pendingCount = c.lockOrder.length + c.pendingCount := by
  cases st with
  | acquire t he =>
    unfold Curry.acquire at he
    split at he
    · rename_i a rest _ hp
      injection he with he; subst he
      have := sum_length_set c.pending t a rest hp
      simp [Curry.pendingCount] at this ⊢; omega
    · cases he
  | advance he =>
    unfold Curry.advance at he
    split at he
    · cases he
    all_goals (injection he with he; subst he; simp [Curry.pendingCount])
  | markDone => rfl

theorem count_reach {fn : CurryFn} {c c' : Curry} (r : CReach fn c c') :
    c'.lockOrder.length + c'.pendingCount = c.lockOrder.length + c.pendingCount := by
  induction r with
  | refl => rfl
  | step _ st ih => rw [count_step st, ih]

/-- goroutine `t` with script `s` has made a prefix `made` of it, in this order within `lockOrder` -/
def ProgOrder (scripts : List (List (List Int))) (c : Curry) : Prop :=
  ∀ (t : Nat) (s : List (List Int)), scripts[t]? = some s → ∃ (made rest : List (List Int)), c.pending[t]? = some rest ∧ s = made ++ rest ∧ made.Sublist c.lockOrder

theorem progOrder_step {fn : CurryFn} {scripts : List (List (List Int))} {c c' : Curry}
    (h : ProgOrder scripts c) (st : CStep fn c c') : ProgOrder scripts c' := by
  cases st with
  | acquire t he =>
    unfold Curry.acquire at he
    split at he
    · rename_i a rest _ hp
      injection he with he; subst he
      intro t' s hs
      obtain ⟨made, rest', h1, h2, h3⟩ := h t' s hs
      by_cases htt : t = t'
      · subst htt
        rw [hp] at h1; injection h1 with h1; subst h1
        have hlt : t < c.pending.length := (List.getElem?_eq_some_iff.mp hp).1
        refine ⟨made ++ [a], rest, by simp [hlt], by simp [h2], ?_⟩
        exact List.Sublist.append h3 (List.Sublist.refl _)
      · refine ⟨made, rest', ?_, h2, h3.trans (List.sublist_append_left _ _)⟩
        simp only
        rw [List.getElem?_set_ne htt]; exact h1
    · cases he
  | advance he =>
    unfold Curry.advance at he
    split at he
    · cases he
    all_goals (injection he with he; subst he; exact h)
  | markDone => exact h

theorem progOrder_reach {fn : CurryFn} {scripts : List (List (List Int))} {c : Curry}
    (r : CReach fn (Curry.init scripts) c) : ProgOrder scripts c := by
  generalize hi : Curry.init scripts = c0 at r
  induction r with
  | refl => subst hi; exact fun t s hs => ⟨[], s, hs, rfl, List.nil_sublist _⟩
  | step _ st ih => exact progOrder_step ih st

end FpgoVerif.C20
