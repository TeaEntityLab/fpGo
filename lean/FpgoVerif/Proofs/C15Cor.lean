import FpgoVerif.Model.C15Cor
import FpgoVerif.Proofs.C15Tac
/-! Coroutine system (callers in YieldFrom + the finishing target): the invariant, its preservation by every
    atom, reachability, progress. -/
namespace FpgoVerif.C15.Co

theorem gstep_some {s pc ch s' nx} (h : gstep s pc ch = some (s', nx)) :
    0 < s.cnt (kind pc) ∧ ∃ s1, step s ch pc = some (s1, nx) ∧ s' = { s1 with cnt := move s1.cnt (kind pc) nx } := by
  unfold gstep at h
  split at h
  · cases h
  · rename_i hc
    split at h <;> cases h
    rename_i hs
    exact ⟨Nat.pos_of_ne_zero hc, _, hs, rfl⟩

structure Inv (s : St) : Prop where
  nopanic : s.panic = false
  gOne : s.cnt .g1 + s.cnt .g2 + s.cnt .gc0 + s.cnt .gc1 + s.cnt .gc2 + s.cnt .gc3 ≤ 1
  idle0 : s.gIdle = true → s.cnt .g1 + s.cnt .g2 + s.cnt .gc0 + s.cnt .gc1 + s.cnt .gc2 + s.cnt .gc3 = 0
  ret0 : s.retStarted = false → s.cnt .gc0 + s.cnt .gc1 + s.cnt .gc2 + s.cnt .gc3 = 0 ∧ s.gflag = false
  retG : s.retStarted = true → s.cnt .g1 + s.cnt .g2 = 0 ∧ s.gIdle = false
  gcflag : 0 < s.cnt .gc1 + s.cnt .gc2 + s.cnt .gc3 → s.gflag = true
  opc : s.opClosed = true → s.gflag = true ∧ s.cnt .r1 = 0 ∧ s.cnt .gc0 + s.cnt .gc1 + s.cnt .gc2 = 0
  done : s.closeDone = true → s.gflag = true ∧ s.opClosed = true ∧ s.cnt .gc3 = 0
  late0 : s.late = 0
  dn : s.fixed = true → 0 < s.cnt .gc2 + s.cnt .gc3 → s.doneClosed = true
  gc3op : 0 < s.cnt .gc3 → s.opClosed = true
  retDone : s.retStarted = true → s.cnt .gc0 + s.cnt .gc1 + s.cnt .gc2 + s.cnt .gc3 = 0 → s.closeDone = true
  drained : s.fixed = true → s.closeDone = true → s.opCh = []
  wcount : s.cnt .w = s.answers.length + s.opCh.length + s.cnt .g2

theorem inv_init (cap : Nat) (f : Bool) : Inv (init cap f) := by
  constructor <;> simp [init]

theorem eraseP_len {α} {p : α → Bool} {l : List α} {a} (h : l.find? p = some a) :
    (l.eraseP p).length + 1 = l.length := by
  have hm := List.mem_of_find?_eq_some h
  have := List.length_pos_of_mem hm
  rw [List.length_eraseP_of_mem hm (List.find?_some h)]; omega

theorem inv_spawn {s s' pc} (h : spawn s pc = some s') (hi : Inv s) : Inv s' := by
  cases pc <;> simp only [spawn, inc] at h <;> try (cases h; done)
  case r0 id x => split at h <;> cases h; exact { hi with }
  case isd => cases h; exact { hi with }
  case g1 y =>
    split at h <;> cases h
    rename_i hg
    simp only [Bool.and_eq_true, Bool.not_eq_true'] at hg
    have h0 := hi.idle0 hg.1
    exact { hi with
      gOne := by cnt_eval; omega
      idle0 := fun h => by cases h
      retG := fun h => by rw [hg.2] at h; cases h }
  case gc0 =>
    split at h <;> cases h
    rename_i hg
    simp only [Bool.and_eq_true, Bool.not_eq_true'] at hg
    have h0 := hi.idle0 hg.1
    -- the effect has not returned before, so nothing of close() has happened
    have hop : ¬s.opClosed = true := fun h => by have := (hi.opc h).1; rw [(hi.ret0 hg.2).2] at this; cases this
    exact { hi with
      gOne := by cnt_eval; omega
      idle0 := fun h => by cases h
      ret0 := fun h => by cases h
      retG := fun _ => ⟨by cnt_eval; omega, rfl⟩
      opc := fun h => absurd h hop
      retDone := fun _ h => by cnt_eval at h; omega }

theorem inv_step {s s' nx pc ch} (h : gstep s pc ch = some (s', nx)) (hi : Inv s) : Inv s' := by
  obtain ⟨hc, s1, hs, rfl⟩ := gstep_some h
  clear h
  cases pc <;> simp only [kind] at hc ⊢
  case r0 id x =>
    simp only [step] at hs
    split at hs
    · cases hs
    split at hs <;> cases hs
    · exact { hi with }
    · rename_i hg
      -- `gflag` is unset: the target has closed nothing yet, and close() has not returned
      have hop : ¬s.opClosed = true := fun h => hg (hi.opc h).1
      have hd : s.closeDone = false := Bool.eq_false_iff.2 fun h => hg (hi.done h).1
      exact { hi with
        opc := fun h => absurd h hop
        late0 := by simp only [hd]; exact hi.late0 }
  case r1 id x =>
    simp only [step] at hs
    repeat' split at hs
    all_goals cases hs
    · -- a send on the closed opCh: close(opCh) needs closedM, which this sender holds
      rename_i hop
      have := (hi.opc hop).2.1; omega
    · rename_i hop _
      exact { hi with opc := fun h => absurd h hop }
    · rename_i hop _ _
      exact { hi with
        opc := fun h => absurd h hop
        drained := fun _ h => absurd (hi.done h).2.1 hop
        wcount := by have := hi.wcount; cnt_eval; simp only [List.length_append, List.length_singleton]; omega }
  case w id =>
    simp only [step] at hs
    split at hs <;> cases hs
    rename_i hf
    exact { hi with wcount := by have := hi.wcount; have := eraseP_len hf; cnt_eval; omega }
  case isd =>
    cases hs
    exact { hi with }
  case g1 y =>
    simp only [step] at hs
    split at hs <;> cases hs
    rename_i id x rest heq
    have h1 := hi.gOne
    exact { hi with
      gOne := by cnt_eval; omega
      idle0 := fun h => by have := hi.idle0 h; omega
      retG := fun h => by have := (hi.retG h).1; omega
      drained := fun hf hd => by rw [hi.drained hf hd] at heq; cases heq
      wcount := by have := hi.wcount; rw [heq] at this; simp only [List.length_cons] at this; cnt_eval; omega }
  case g2 y id x =>
    cases hs
    have h1 := hi.gOne
    exact { hi with
      gOne := by cnt_eval; omega
      idle0 := fun _ => by cnt_eval; omega
      retG := fun h => by have := (hi.retG h).1; omega
      wcount := by have := hi.wcount; cnt_eval; simp only [List.length_append, List.length_singleton]; omega }
  case gc0 =>
    cases hs
    have h1 := hi.gOne
    have hop : ¬s.opClosed = true := fun h => by have := (hi.opc h).2.2; omega
    exact { hi with
      gOne := by cnt_eval; omega
      idle0 := fun h => by have := hi.idle0 h; omega
      ret0 := fun h => by have := (hi.ret0 h).1; omega
      gcflag := fun _ => rfl
      opc := fun h => absurd h hop
      done := fun h => absurd (hi.done h).2.1 hop
      retDone := fun _ h => by cnt_eval at h; omega }
  case gc1 =>
    cases hs
    have h1 := hi.gOne
    have hop : ¬s.opClosed = true := fun h => by have := (hi.opc h).2.2; omega
    exact { hi with
      gOne := by cnt_eval; omega
      idle0 := fun h => by have := hi.idle0 h; omega
      ret0 := fun h => by have := (hi.ret0 h).1; omega
      gcflag := fun _ => hi.gcflag (by omega)
      opc := fun h => absurd h hop
      dn := fun h _ => h
      retDone := fun _ h => by cnt_eval at h; omega }
  case gc2 =>
    have h1 := hi.gOne
    have hg : s.gflag = true := hi.gcflag (by omega)
    simp only [step] at hs
    split at hs
    · cases hs
    rename_i hr1
    split at hs
    · -- opCh is closed once: `opClosed` says no closer is before its close
      rename_i hop
      have := (hi.opc hop).2.2; omega
    rename_i hop
    split at hs <;> cases hs
    · rename_i hf
      exact { hi with
        gOne := by cnt_eval; omega
        idle0 := fun h => by have := hi.idle0 h; omega
        ret0 := fun h => by have := (hi.ret0 h).1; omega
        gcflag := fun _ => hg
        opc := fun _ => ⟨hg, by cnt_eval; omega, by cnt_eval; omega⟩
        done := fun h => absurd (hi.done h).2.1 hop
        dn := fun h _ => hi.dn h (by omega)
        gc3op := fun _ => rfl
        retDone := fun _ h => by cnt_eval at h }
    · rename_i hf
      exact { hi with
        gOne := by cnt_eval; omega
        idle0 := fun h => by have := hi.idle0 h; omega
        ret0 := fun h => by have := (hi.ret0 h).1; omega
        gcflag := fun _ => hg
        opc := fun _ => ⟨hg, by cnt_eval; omega, by cnt_eval; omega⟩
        done := fun _ => ⟨hg, rfl, by cnt_eval; omega⟩
        dn := fun h => absurd h hf
        gc3op := fun _ => rfl
        retDone := fun _ _ => rfl
        drained := fun h => absurd h hf }
  case gc3 =>
    have h1 := hi.gOne
    simp only [step] at hs
    split at hs <;> cases hs
    · rename_i id x rest heq
      -- the drain loop stays at gc3
      have hm : move s.cnt .gc3 (.at .gc3) = s.cnt := funext fun k => by cases k <;> cnt_eval; omega
      simp only [hm]
      exact { hi with
        drained := fun _ h => by have := (hi.done h).2.2; omega
        wcount := by
          have := hi.wcount
          rw [heq] at this
          simp only [List.length_append, List.length_cons, List.length_nil] at this ⊢
          omega }
    · rename_i heq
      exact { hi with
        gOne := by cnt_eval; omega
        idle0 := fun h => by have := hi.idle0 h; omega
        ret0 := fun h => by have := (hi.ret0 h).1; omega
        gcflag := fun h => by cnt_eval at h; omega
        done := fun _ => ⟨hi.gcflag (by omega), hi.gc3op hc, by cnt_eval; omega⟩
        dn := fun _ h => by cnt_eval at h; omega
        gc3op := fun h => by cnt_eval at h; omega
        retDone := fun _ _ => rfl
        drained := fun _ _ => heq }

theorem inv_reach {cap f s} (h : Reach cap f s) : Inv s := by
  induction h with
  | init => exact inv_init cap f
  | spawn pc _ hs ih => exact inv_spawn hs ih
  | step pc ch _ hs ih => exact inv_step hs ih

theorem step_fixed {s ch pc s1 nx} (h : step s ch pc = some (s1, nx)) : s1.fixed = s.fixed := by
  cases pc <;> simp only [step] at h <;> repeat' split at h
  all_goals cases h <;> rfl

theorem fixed_const {cap f s} (h : Reach cap f s) : s.fixed = f := by
  induction h with
  | init => rfl
  | spawn pc _ hs ih =>
    cases pc <;> simp only [spawn, inc] at hs <;> try split at hs
    all_goals cases hs <;> exact ih
  | step pc ch _ hs ih =>
    obtain ⟨_, s1, hs1, rfl⟩ := gstep_some hs
    exact (step_fixed hs1).trans ih

theorem gstep_of_isSome {s pc} (ch : Bool) (hc : 0 < s.cnt (kind pc)) (hs : (step s ch pc).isSome = true) :
    ∃ s' nx, gstep s pc ch = some (s', nx) := by
  unfold gstep
  rw [if_neg (Nat.ne_of_gt hc)]
  cases h : step s ch pc with
  | none => rw [h] at hs; cases hs
  | some p => exact ⟨_, _, rfl⟩

/-- side condition of the per-kind statement: only for `w id` — the answer to request `id` is queued -/
def live (s : St) : PC → Prop
  | .w id => ∃ a ∈ s.answers, a.1 = id
  | _ => True

theorem progress_at {s} {k : Kind} (hk : 0 < s.cnt k) (ha : k = .w → s.answers ≠ [])
    (he : ∀ pc, kind pc = k → live s pc → (step s false pc).isSome = true) :
    ∃ k, 0 < s.cnt k ∧ (k = .w → s.answers ≠ []) ∧
      ∀ pc, kind pc = k → live s pc → ∃ s' nx, gstep s pc false = some (s', nx) :=
  ⟨k, hk, ha, fun pc hpk hl => gstep_of_isSome false (hpk ▸ hk) (he pc hpk hl)⟩

/-- Progress, stated per program-counter *kind* (as for the mailbox, queue and pool): the counters do not record
    which request a goroutine carries, so the enabled atom must be enabled for every parameter a goroutine at that
    kind may have.  One kind needs a side condition: a caller at `w id` waits for the answer to *its own* request
    `id`, and `cnt .w` does not say which ids the waiting callers carry.  The clause for kind `w` is therefore
    "every caller whose answer is queued (`id ∈ answers`) can take it"; that such callers exist is the count
    invariant `cnt w = |answers| + |opCh| + cnt g2` (`Inv.wcount`): once the target is gone (`opCh = []`,
    `cnt g2 = 0`) there are exactly as many queued answers as waiting callers.  Tying each waiting goroutine to its
    id would need the ids of the waiting callers as (ghost) state, i.e. leaving the pure counter abstraction. -/
theorem progressK {s} (hi : Inv s) (hf : s.fixed = true) (hr : s.retStarted = true)
    (hb : 0 < s.cnt .r0 ∨ 0 < s.cnt .r1 ∨ 0 < s.cnt .w ∨ 0 < s.cnt .isd ∨
          0 < s.cnt .gc0 + s.cnt .gc1 + s.cnt .gc2 + s.cnt .gc3) :
    ∃ k, 0 < s.cnt k ∧ (k = .w → s.answers ≠ []) ∧
      ∀ pc, kind pc = k → live s pc → ∃ s' nx, gstep s pc false = some (s', nx) := by
  -- close() first: only its gc2 (taking closedM) can block
  by_cases h0 : 0 < s.cnt .gc0
  · exact progress_at h0 nofun fun pc hk _ => by cases pc <;> cases hk; rfl
  by_cases h1 : 0 < s.cnt .gc1
  · exact progress_at h1 nofun fun pc hk _ => by cases pc <;> cases hk; rfl
  by_cases h3 : 0 < s.cnt .gc3
  · exact progress_at h3 nofun fun pc hk _ => by cases pc <;> cases hk; simp only [step]; split <;> rfl
  by_cases hisd : 0 < s.cnt .isd
  · exact progress_at hisd nofun fun pc hk _ => by cases pc <;> cases hk; rfl
  by_cases h2 : 0 < s.cnt .gc2
  · have hop : s.opClosed = false := Bool.eq_false_iff.2 fun h => by have := (hi.opc h).2.2; omega
    by_cases hr1 : s.cnt .r1 = 0
    · exact progress_at h2 nofun fun pc hk _ => by cases pc <;> cases hk; simp [step, hr1, hop, hf]
    · -- closedM is held by a sender; doneCh is closed, so its `select` has the escape
      have hd := hi.dn hf (by omega)
      exact progress_at (Nat.pos_of_ne_zero hr1) nofun fun pc hk _ => by
        cases pc <;> cases hk
        by_cases hroom : s.opCh.length < s.cap <;> simp [step, hop, hf, hd, hroom]
  -- the target is gone: close() has completed
  have hdone := hi.retDone hr (by omega)
  obtain ⟨hgf, hopc, _⟩ := hi.done hdone
  have hr1 : s.cnt .r1 = 0 := (hi.opc hopc).2.1
  by_cases hr0 : 0 < s.cnt .r0
  · exact progress_at hr0 nofun fun pc hk _ => by cases pc <;> cases hk; simp [step, hr1, hgf]
  have hw : 0 < s.cnt .w := by omega
  -- nothing is queued or in flight any more, so every waiting caller has its answer
  have hwc := hi.wcount
  rw [hi.drained hf hdone] at hwc
  have hne : s.answers ≠ [] := fun ha => by rw [ha] at hwc; have := (hi.retG hr).1; simp only [List.length_nil] at hwc; omega
  refine progress_at hw (fun _ => hne) fun pc hk hl => ?_
  cases pc <;> cases hk
  obtain ⟨a, ha, hid⟩ := hl
  rename_i id
  have hfind : (s.answers.find? (·.1 == id)).isSome = true := by
    rw [List.find?_isSome]; exact ⟨a, ha, by simp [hid]⟩
  simp only [step]
  split
  · rfl
  · rename_i hn; rw [hn] at hfind; cases hfind

/-- once the target's effect has returned, as long as anyone is still inside YieldFrom / close() some atom is
    enabled (not every goroutine's: close() at gc2 waits for a sender holding closedM) -/
theorem progress {s} (hi : Inv s) (hf : s.fixed = true) (hr : s.retStarted = true)
    (hb : 0 < s.cnt .r0 ∨ 0 < s.cnt .r1 ∨ 0 < s.cnt .w ∨ 0 < s.cnt .isd ∨
          0 < s.cnt .gc0 + s.cnt .gc1 + s.cnt .gc2 + s.cnt .gc3) :
    ∃ pc ch s' nx, gstep s pc ch = some (s', nx) := by
  obtain ⟨k, _, ha, he⟩ := progressK hi hf hr hb
  -- some live program counter of kind `k`; for `w`, the caller whose answer is first in the queue
  have ⟨pc, hk, hl⟩ : ∃ pc, kind pc = k ∧ live s pc := by
    cases k
    case r0 => exact ⟨.r0 0 0, rfl, trivial⟩
    case r1 => exact ⟨.r1 0 0, rfl, trivial⟩
    case w =>
      cases hs : s.answers with
      | nil => exact absurd hs (ha rfl)
      | cons a rest => exact ⟨.w a.1, rfl, a, by rw [hs]; exact List.mem_cons_self, rfl⟩
    case isd => exact ⟨.isd, rfl, trivial⟩
    case g1 => exact ⟨.g1 0, rfl, trivial⟩
    case g2 => exact ⟨.g2 0 0 0, rfl, trivial⟩
    case gc0 => exact ⟨.gc0, rfl, trivial⟩
    case gc1 => exact ⟨.gc1, rfl, trivial⟩
    case gc2 => exact ⟨.gc2, rfl, trivial⟩
    case gc3 => exact ⟨.gc3, rfl, trivial⟩
  exact ⟨pc, false, he pc hk hl⟩

end FpgoVerif.C15.Co
