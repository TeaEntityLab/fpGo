import FpgoVerif.Model.C03Heap
import FpgoVerif.Proofs.C03Basic
/-! C03 — the slice-heap model (`Model/C03Heap.lean`): allocation primitives leave every pre-existing array / map
    untouched and return fresh storage holding the requested content; reslicing stays inside the parameter's storage. -/
namespace FpgoVerif.C03

variable {γ : Type}

theorem Frame.refl (w : World γ) : Frame w w := ⟨fun _ _ => rfl, Nat.le_refl _, fun _ _ => rfl, Nat.le_refl _⟩

theorem Frame.trans {w1 w2 w3 : World γ} (h12 : Frame w1 w2) (h23 : Frame w2 w3) : Frame w1 w3 :=
  ⟨fun a ha => by rw [h23.arrs a (Nat.lt_of_lt_of_le ha h12.arrsGrow), h12.arrs a ha],
   Nat.le_trans h12.arrsGrow h23.arrsGrow,
   fun m hm => by rw [h23.maps m (Nat.lt_of_lt_of_le hm h12.mapsGrow), h12.maps m hm],
   Nat.le_trans h12.mapsGrow h23.mapsGrow⟩

theorem Frame.read {w w' : World γ} (hf : Frame w w') (s : Hdr) (hs : s.arr < w.arrs.length) :
    w'.read s = w.read s ∧ w'.hidden s = w.hidden s := by
  simp only [World.read, World.hidden, hf.arrs s.arr hs, and_self]

theorem arrAt_append_left (w : World γ) (x : List γ) (a : Nat) (ha : a < w.arrs.length) :
    ({ w with arrs := w.arrs ++ [x] } : World γ).arrAt a = w.arrAt a := by
  simp only [World.arrAt, List.getD_eq_getElem?_getD, List.getElem?_append_left ha]

theorem arrAt_append_new (w : World γ) (x : List γ) :
    ({ w with arrs := w.arrs ++ [x] } : World γ).arrAt w.arrs.length = x := by
  simp [World.arrAt, List.getD_eq_getElem?_getD]

theorem make_frame (w : World γ) (n : Nat) (z : γ) : Frame w (w.make n z).1 :=
  ⟨fun a ha => arrAt_append_left w _ a ha, by simp [World.make], fun _ _ => rfl, Nat.le_refl _⟩

theorem store_arrAt_other (w : World γ) (s : Hdr) (xs : List γ) (a : Nat) (ha : a ≠ s.arr) :
    (w.store s xs).arrAt a = w.arrAt a := by
  simp only [World.store, World.arrAt, List.getD_eq_getElem?_getD, List.getElem?_set_ne ha.symm]

theorem store_arrAt_self (w : World γ) (s : Hdr) (xs : List γ) (hs : s.arr < w.arrs.length) :
    (w.store s xs).arrAt s.arr
      = (w.arrAt s.arr).take s.off ++ xs ++ (w.arrAt s.arr).drop (s.off + xs.length) := by
  simp [World.store, World.arrAt, List.getD_eq_getElem?_getD, hs]

theorem store_frame (w0 w : World γ) (hf : Frame w0 w) (s : Hdr) (xs : List γ) (hfresh : w0.arrs.length ≤ s.arr) :
    Frame w0 (w.store s xs) :=
  ⟨fun a ha => by rw [store_arrAt_other w s xs a (Nat.ne_of_lt (Nat.lt_of_lt_of_le ha hfresh)), hf.arrs a ha],
   by simpa [World.store] using hf.arrsGrow, hf.maps, hf.mapsGrow⟩

/-- for every capacity `c`: `makeFill` and `appendBuilt` cut headers of different capacity from the same array -/
theorem make_store (w : World γ) (z : γ) (n : Nat) (r : List γ) :
    Frame w ((w.make n z).1.store (w.make n z).2 r)
      ∧ ∀ c, ((w.make n z).1.store (w.make n z).2 r).read ⟨w.arrs.length, 0, r.length, c⟩ = r := by
  refine ⟨store_frame w _ (make_frame w n z) _ r (Nat.le_refl _), fun c => ?_⟩
  have h := store_arrAt_self (w.make n z).1 (w.make n z).2 r (by simp [World.make])
  simp only [World.make, List.take_zero, List.nil_append] at h
  simp only [World.read, World.make, h, List.drop_zero, List.take_left' rfl]

theorem freshList_bind {w : World γ} {impl : Res (List γ)} {spec : List γ} {f : List γ → Res (World γ × Hdr)}
    (hi : impl = .ok spec) (h : FreshList w (f spec) (.ok spec) spec) : FreshList w (impl >>= f) impl spec := by
  subst hi; exact h

theorem reslice_ok (s : Hdr) {a b : Int} (ha : 0 ≤ a) (hab : a ≤ b) (hb : b ≤ (s.cap : Int)) :
    s.reslice a b = .ok ⟨s.arr, s.off + a.toNat, (b - a).toNat, s.cap - a.toNat⟩ :=
  if_pos ⟨ha, hab, hb⟩

/-- `make([]T, n)`, fill, `[:len r]`: no panic, frame, fresh, content -/
theorem makeFill_fresh (w : World γ) (z : γ) {n : Nat} {r : List γ} (hr : r.length ≤ n) :
    FreshList w (w.makeFill z n r) (.ok r) r := by
  obtain ⟨hf, hrd⟩ := make_store w z n r
  refine ⟨_, ⟨w.arrs.length, 0, r.length, n⟩, ?_, hf, Nat.le_refl _, hrd n, congrArg Except.ok (hrd n).symm⟩
  simp only [World.makeFill, if_pos hr,
    reslice_ok (w.make n z).2 (Int.le_refl 0) (Int.natCast_nonneg _) (Int.ofNat_le.mpr hr)]
  simp [World.make]

theorem appendBuilt_ok (w : World γ) (z : γ) (extra : Nat) (r : List γ) :
    Frame w (w.appendBuilt z extra r).1 ∧ FreshHdr w (w.appendBuilt z extra r).2
      ∧ (w.appendBuilt z extra r).1.read (w.appendBuilt z extra r).2 = r
      ∧ (w.appendBuilt z extra r).2.arr < (w.appendBuilt z extra r).1.arrs.length := by
  obtain ⟨hf, hrd⟩ := make_store w z (r.length + extra) r
  exact ⟨hf, Nat.le_refl _, hrd _, by simp [World.appendBuilt, World.make, World.store]⟩

theorem appendBuilt_fresh (w : World γ) (z : γ) (extra : Nat) (r : List γ) :
    FreshList w (.ok (w.appendBuilt z extra r)) (.ok r) r := by
  obtain ⟨h2, h3, h4, _⟩ := appendBuilt_ok w z extra r
  exact ⟨_, _, rfl, h2, h3, h4, congrArg Except.ok h4.symm⟩

theorem appendBuiltMany_ok (w : World γ) (z : γ) (extra : Nat) (rs : List (List γ)) :
    Frame w (w.appendBuiltMany z extra rs).1
      ∧ (∀ h ∈ (w.appendBuiltMany z extra rs).2, FreshHdr w h)
      ∧ (w.appendBuiltMany z extra rs).2.map ((w.appendBuiltMany z extra rs).1.read) = rs := by
  induction rs generalizing w with
  | nil => exact ⟨Frame.refl w, by simp [World.appendBuiltMany], by simp [World.appendBuiltMany]⟩
  | cons r rest ih =>
    obtain ⟨f1, fr1, rd1, lt1⟩ := appendBuilt_ok w z extra r
    obtain ⟨f2, fr2, rd2⟩ := ih (w.appendBuilt z extra r).1
    refine ⟨f1.trans f2, ?_, ?_⟩
    · intro h hh
      simp only [World.appendBuiltMany, List.mem_cons] at hh
      rcases hh with rfl | hh
      · exact fr1
      · exact Nat.le_trans f1.arrsGrow (fr2 h hh)
    · simp only [World.appendBuiltMany, List.map_cons]
      rw [(f2.read _ lt1).1, rd1, rd2]

theorem allocMap_ok (w : World γ) (m : List (γ × γ)) : FreshMap w (w.allocMap m) m := by
  refine ⟨⟨fun _ _ => rfl, Nat.le_refl _, ?_, by simp [World.allocMap]⟩, Nat.le_refl _, ?_⟩
  · intro k hk
    simp only [World.allocMap, World.mapAt, List.getD_eq_getElem?_getD, List.getElem?_append_left hk]
  · simp [World.allocMap, World.mapAt, List.getD_eq_getElem?_getD]

theorem read_length (w : World γ) (s : Hdr) (hwf : w.WF s) : (w.read s).length = s.len := by
  obtain ⟨_, h2, h3⟩ := hwf
  simp only [World.read, List.length_take, List.length_drop]
  omega

theorem sl_len (w : World γ) (s : Hdr) (hwf : w.WF s) : (w.sl s).len = (s.len : Int) :=
  congrArg Int.ofNat (read_length w s hwf)

theorem reslice_within (s r : Hdr) (a b : Int) (h : s.reslice a b = .ok r) : Within s r := by
  unfold Hdr.reslice at h
  split at h
  · rename_i hc
    cases h
    refine ⟨rfl, Nat.le_add_right _ _, ?_, ?_⟩ <;> dsimp only <;> omega
  · cases h

theorem reslice_read (w : World γ) (s r : Hdr) (a b : Int) (h : s.reslice a b = .ok r) (hb : b ≤ (s.len : Int)) :
    w.read r = ((w.read s).take b.toNat).drop a.toNat := by
  unfold Hdr.reslice at h
  split at h
  · rename_i hc
    cases h
    simp only [World.read]
    rw [List.take_take, List.drop_take, List.drop_drop, Nat.min_eq_left (Int.toNat_le.mpr hb),
      Int.toNat_sub'' (Int.le_trans hc.1 hc.2.1) hc.1]
  · cases h

theorem make0_read (w : World γ) (z : γ) : (w.make 0 z).1.read (w.make 0 z).2 = [] := by
  simp [World.read, World.make]

/-- A view helper returns in one of three ways — the parameter itself, `make([]T, 0)`, a window `s[a:b]` with
    `b ≤ len` — and `Impl.*` on the abstraction `w.sl s` does the matching thing: the next three lemmas. -/
theorem viewOf_self {w : World γ} {s : Hdr} (hwf : w.WF s) : ViewOf w s (.ok (w, s)) (.ok (w.sl s)) (w.read s) :=
  ⟨w, s, rfl, Frame.refl w, Or.inl ⟨rfl, Nat.le_refl _, hwf.2.1, Nat.le_refl _⟩, rfl, rfl⟩

theorem viewOf_empty {w : World γ} {s : Hdr} (z : γ) : ViewOf w s (.ok (w.make 0 z)) (.ok ⟨[], []⟩) [] :=
  ⟨_, _, rfl, make_frame w 0 z, Or.inr ⟨Nat.le_refl _, rfl⟩, rfl, rfl⟩

theorem viewOf_reslice {w : World γ} {s : Hdr} (hwf : w.WF s) {a b : Int}
    (ha : 0 ≤ a) (hab : a ≤ b) (hb : b ≤ (s.len : Int)) :
    ViewOf w s (do let h ← s.reslice a b; pure (w, h)) ((w.sl s).reslice a b)
      (((w.read s).take b.toNat).drop a.toNat) := by
  have hr := reslice_ok s ha hab (Int.le_trans hb (Int.ofNat_le.mpr hwf.2.1))
  have hrd := reslice_read w s _ a b hr hb
  exact ⟨w, _, by rw [hr]; rfl, Frame.refl w, Or.inl (reslice_within s _ a b hr), hrd,
    (Sl.reslice_vis (w.sl s) ha hab ((sl_len w s hwf).symm ▸ hb)).trans (congrArg Except.ok hrd.symm)⟩

/-- which list a view shows is fixed by what `impl` shows, so the documented value comes from the theorem about
    `Impl.*` on `Sl` and only the shape of the view is left to prove -/
theorem viewOf_of_impl {w : World γ} {s : Hdr} {out : Res (World γ × Hdr)} {impl : Res (Sl γ)} {spec : List γ}
    (hi : impl.map Sl.vis = .ok spec) (h : ∃ shown, ViewOf w s out impl shown) : ViewOf w s out impl spec := by
  obtain ⟨_, w', r, ho, hf, hw, rfl, hm⟩ := h
  cases hi.symm.trans hm
  exact ⟨w', r, ho, hf, hw, rfl, hm⟩

end FpgoVerif.C03
