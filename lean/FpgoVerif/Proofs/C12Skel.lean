import FpgoVerif.Gen.Skeletons
/-! The skeleton lookups of handler.go.  `Props/C12.lean` states each of them as a theorem of its own
    (`C12_skel_Handler_*`); the strings stand here once more because the five lookups are evaluated together: the kernel
    then decodes each key of the regenerated table once, not once per lookup (the `ActorDef` entries stand at the head of
    the table, where a lookup of its own costs little). -/
namespace FpgoVerif.C12

theorem handler_skeletons_agree :
    Gen.skeletonOf "HandlerDef.Post" =
      some "if[get(isClosed) call(isClosed.Get)]{return} defer{call(recover)} send(ch)" ∧
    Gen.skeletonOf "HandlerDef.Close" = some "get(isClosed) call(isClosed.Set) call(close)" ∧
    Gen.skeletonOf "HandlerDef.run" = some "rangech(ch){callfn(fn)}" ∧
    Gen.skeletonOf "HandlerDef.New" = some "call(NewByCh) return" ∧
    Gen.skeletonOf "HandlerDef.NewByCh" = some "go{call(run)} return" := by decide +kernel

end FpgoVerif.C12
