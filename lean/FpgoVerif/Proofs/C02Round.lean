import FpgoVerif.Model.C02Core
/-! C02 — the arithmetic of the two roundings, independent of the table and its evaluator.
    `math.Round` (half away from zero): bounds on a value carry over to its rounding.  `roundRat` (to nearest, ties
    to even): the result is finite whenever the magnitude is at most the largest finite value of the format. -/
namespace FpgoVerif.C02

theorem pow2_pos (k : Nat) : (0 : Int) < 2 ^ k := Int.pow_pos (by decide)

theorem natCast_pow2 (k : Nat) : ((2 ^ k : Nat) : Int) = (2 : Int) ^ k := by simp

theorem rhaNat_le (m k c : Nat) (h : m ≤ c * 2 ^ k) : rhaNat m k ≤ c := by
  have hp := Nat.two_pow_pos k
  refine Nat.le_of_lt_succ ((Nat.div_lt_iff_lt_mul hp).mpr ?_)
  rw [Nat.succ_mul]
  omega

theorem rhaNat_le_self (m k : Nat) : rhaNat m k ≤ m :=
  rhaNat_le m k m (Nat.le_mul_of_pos_right m (Nat.two_pow_pos k))

theorem sgn_not (s : Bool) (m : Nat) : sgn (!s) m = -sgn s m := by
  cases s <;> simp [sgn]

theorem rha_ge (s : Bool) (m k : Nat) (c : Int) (h : c * 2 ^ k ≤ sgn s m) : c ≤ roundHalfAway s m k := by
  have hp := pow2_pos k
  -- as integers `rhaNat m k` is a floor: `c ≤ floor y ↔ c ≤ y`, and `floor y < 1 - c ↔ y < 1 - c`
  have hr : (rhaNat m k : Int) = (m + 2 ^ k / 2) / 2 ^ k := by simp [rhaNat]
  cases s <;> simp only [roundHalfAway, sgn, Bool.false_eq_true, if_false, if_true, hr] at h ⊢
  · exact (Int.le_ediv_iff_mul_le hp).mpr (by omega)
  · have : (m + 2 ^ k / 2 : Int) < (1 - c) * 2 ^ k := by rw [Int.sub_mul]; omega
    have := (Int.ediv_lt_iff_lt_mul hp).mpr this
    omega

theorem rha_le (s : Bool) (m k : Nat) (c : Int) (h : sgn s m ≤ c * 2 ^ k) : roundHalfAway s m k ≤ c := by
  have := rha_ge (!s) m k (-c) (by rw [sgn_not, Int.neg_mul]; omega)
  rw [roundHalfAway, sgn_not] at this
  unfold roundHalfAway
  omega

def FVal.wf (p : Nat) : FVal → Prop
  | .fin _ m k => k = 0 ∨ m < 2 ^ p
  | _ => True

theorem decode_wf (f : Fmt) (hp : 1 ≤ f.p) (bits : Nat) : (decode f bits).wf f.p := by
  have hman : bits % 2 ^ (f.p - 1) < 2 ^ (f.p - 1) := Nat.mod_lt _ (Nat.two_pow_pos _)
  have hpow : 2 ^ f.p = 2 ^ (f.p - 1) * 2 := by rw [← Nat.pow_succ, Nat.succ_eq_add_one, Nat.sub_add_cancel hp]
  unfold decode
  simp only
  split
  · split <;> trivial
  · split <;> split <;> first | exact .inl rfl | exact .inr (by omega)

theorem rha_lt (p : Nat) (s : Bool) (m k : Nat) (U : Int) (hw : (FVal.fin s m k).wf p) (hU : (2 : Int) ^ p ≤ U)
    (h : sgn s m < U * 2 ^ k) : roundHalfAway s m k ≤ U - 1 := by
  rcases hw with rfl | hm
  · -- an integer: `m < U` is `m ≤ U - 1`
    apply rha_le
    omega
  · -- a numerator below `2^p ≤ U` cannot round above it
    have h1 := rhaNat_le_self m k
    have h2 : (m : Int) < 2 ^ p := by rw [← natCast_pow2]; exact Int.ofNat_lt.mpr hm
    cases s <;> simp only [roundHalfAway, sgn, Bool.false_eq_true, if_false, if_true] <;> omega

theorem log2Fuel_lb (fuel n : Nat) (hn : 1 ≤ n) : 2 ^ log2Fuel fuel n ≤ n := by
  induction fuel generalizing n with
  | zero => exact hn
  | succ fuel ih =>
    unfold log2Fuel
    split
    · exact hn
    · have := ih (n / 2) (by omega)
      rw [Nat.pow_succ]
      omega

theorem log2Fuel_ub (fuel n : Nat) (hf : n ≤ fuel) : n < 2 ^ (log2Fuel fuel n + 1) := by
  induction fuel generalizing n with
  | zero => simp only [log2Fuel]; omega
  | succ fuel ih =>
    unfold log2Fuel
    split
    · simp only [Nat.zero_add, Nat.pow_one]; omega
    · have := ih (n / 2) (by omega)
      rw [Nat.pow_succ]
      omega

theorem log2_lb (n : Nat) (hn : 1 ≤ n) : 2 ^ log2 n ≤ n := log2Fuel_lb n n hn
theorem log2_ub (n : Nat) : n < 2 ^ (log2 n + 1) := log2Fuel_ub n n (Nat.le_refl n)

theorem ratLog2_le (num den B : Nat) (hn : 0 < num) (h : num < 2 ^ (B + 1) * den) : ratLog2 num den ≤ B := by
  unfold ratLog2
  simp only
  have hl1 := log2_lb num hn
  have hu2 := log2_ub den
  by_cases he : (log2 num : Int) - (log2 den : Int) ≤ B
  · split <;> omega
  · -- then `a ≥ b` is impossible, and the exponent is exactly B + 1
    obtain ⟨k, hk⟩ := Int.eq_ofNat_of_zero_le (by omega : 0 ≤ (log2 num : Int) - (log2 den : Int))
    simp only [hk, scale, Int.natCast_nonneg, ge_iff_le, if_true, Int.toNat_natCast]
    have hlt : num < den * 2 ^ k :=
      calc num < 2 ^ (B + 1) * den := h
        _ ≤ 2 ^ k * den := Nat.mul_le_mul_right _ (Nat.pow_le_pow_right (by decide) (by omega))
        _ = den * 2 ^ k := Nat.mul_comm _ _
    rw [if_neg (by omega)]
    -- k ≤ B + 1: otherwise num ≥ 2^(log2 num) = 2^(log2 den + k) ≥ 2^(B+1) · 2^(log2 den + 1) > 2^(B+1) · den > num
    by_cases hk2 : k ≤ B + 1
    · omega
    · exfalso
      have h1 : 2 ^ (B + 1) * den < 2 ^ (B + 1) * 2 ^ (log2 den + 1) :=
        Nat.mul_lt_mul_of_pos_left hu2 (Nat.two_pow_pos (B + 1))
      have h3 : 2 ^ (B + 1 + (log2 den + 1)) ≤ 2 ^ log2 num := Nat.pow_le_pow_right (by decide) (by omega)
      rw [← Nat.pow_add] at h1
      omega

theorem divRNE_le_of (num b K : Nat) (hb : 0 < b) (h : num ≤ K * b) : divRNE num b ≤ K := by
  unfold divRNE
  simp only
  have hq : num / b ≤ K := Nat.div_le_of_le_mul (Nat.mul_comm K b ▸ h)
  have hdm := Nat.div_add_mod num b
  by_cases hlt : num / b < K
  · split <;> omega
  · -- the quotient is exactly `K`: no remainder, so no rounding up
    have heq : num / b = K := by omega
    rw [heq, Nat.mul_comm] at hdm
    rw [if_neg (by omega)]
    omega

theorem round_lt (p t qn num den : Nat) (hq : qn ≤ t) (hd : 0 < den) (h : num ≤ (2 ^ p - 1) * 2 ^ t * den) :
    divRNE num (den * 2 ^ qn) * 2 ^ qn < 2 ^ (p + t) := by
  have hsplit : 2 ^ t = 2 ^ (t - qn) * 2 ^ qn := by rw [← Nat.pow_add, Nat.sub_add_cancel hq]
  have hK : num ≤ ((2 ^ p - 1) * 2 ^ (t - qn)) * (den * 2 ^ qn) := by
    rw [hsplit] at h
    exact Nat.le_trans h (Nat.le_of_eq (by ac_rfl))
  have hn := divRNE_le_of num (den * 2 ^ qn) _ (Nat.mul_pos hd (Nat.two_pow_pos _)) hK
  calc divRNE num (den * 2 ^ qn) * 2 ^ qn
      ≤ (2 ^ p - 1) * 2 ^ (t - qn) * 2 ^ qn := Nat.mul_le_mul_right _ hn
    _ = (2 ^ p - 1) * 2 ^ t := by rw [hsplit, Nat.mul_assoc]
    _ < 2 ^ p * 2 ^ t := Nat.mul_lt_mul_of_pos_right (Nat.sub_one_lt (Nat.ne_of_gt (Nat.two_pow_pos p))) (Nat.two_pow_pos t)
    _ = 2 ^ (p + t) := (Nat.pow_add 2 p t).symm

theorem normFin_value (neg : Bool) (m k : Nat) :
    ∃ m' k', normFin neg m k = .fin neg m' k' ∧ m' * 2 ^ k = m * 2 ^ k' := by
  induction k generalizing m with
  | zero => exact ⟨m, 0, rfl, rfl⟩
  | succ k ih =>
    unfold normFin
    split
    · obtain ⟨m', k', h1, h2⟩ := ih (m / 2)
      refine ⟨m', k', h1, ?_⟩
      have hm : m = m / 2 * 2 := by omega
      rw [Nat.pow_succ, ← Nat.mul_assoc, h2, Nat.mul_right_comm, ← hm]
    · exact ⟨m, k + 1, rfl, rfl⟩

theorem roundRat_cases (f : Fmt) (neg : Bool) (num den : Nat) :
    (∃ m k, roundRat f neg num den = .fin neg m k) ∨ roundRat f neg num den = .inf neg := by
  unfold roundRat
  split
  · exact .inl ⟨0, 0, rfl⟩
  · simp only
    split
    · split
      · exact .inr rfl
      · exact .inl ⟨_, 0, rfl⟩
    · obtain ⟨m, k, h, _⟩ := normFin_value neg _ _
      exact .inl ⟨m, k, h⟩

theorem fmt_facts (f : Fmt) (hf : f = f32 ∨ f = f64) : 1 ≤ f.p ∧ f.p ≤ f.bias + 1 ∧ f.qmin ≤ 0 := by
  rcases hf with rfl | rfl <;> decide

theorem roundRat_isFin (f : Fmt) (hf : f = f32 ∨ f = f64) (neg : Bool) (num den : Nat) (hd : 0 < den)
    (h : num ≤ f.maxFinite * den) : (roundRat f neg num den).isFin = true := by
  obtain ⟨hp1, hpb, hqm⟩ := fmt_facts f hf
  rcases roundRat_cases f neg num den with ⟨m, k, hfin⟩ | hinf
  · rw [hfin]; rfl
  -- the overflow branch is taken only when the rounded integer reaches `2^(bias+1)`; `round_lt` excludes it
  exfalso
  unfold roundRat at hinf
  split at hinf
  · cases hinf
  rename_i hn0
  have hlt : num < 2 ^ (f.bias + 1) * den :=
    calc num ≤ (2 ^ f.p - 1) * 2 ^ (f.bias + 1 - f.p) * den := h
      _ < 2 ^ f.p * 2 ^ (f.bias + 1 - f.p) * den :=
        Nat.mul_lt_mul_of_pos_right (Nat.mul_lt_mul_of_pos_right
          (Nat.sub_one_lt (Nat.ne_of_gt (Nat.two_pow_pos f.p))) (Nat.two_pow_pos _)) hd
      _ = 2 ^ (f.bias + 1) * den := by rw [← Nat.pow_add, Nat.add_sub_cancel' hpb]
  have he := ratLog2_le num den f.bias (Nat.pos_of_ne_zero hn0) hlt
  simp only at hinf
  generalize ratLog2 num den = e at he hinf
  generalize hq : max (e - ((f.p : Int) - 1)) f.qmin = q at hinf
  split at hinf
  · rename_i hq0
    split at hinf
    · rename_i hov
      simp only [scale, hq0, if_true] at hov
      have := round_lt f.p (f.bias + 1 - f.p) q.toNat num den (by omega) hd h
      rw [Nat.add_sub_cancel' hpb] at this
      omega
    · cases hinf
  · obtain ⟨m, k, h', _⟩ := normFin_value neg (divRNE (scale num den q).1 (scale num den q).2) (-q).toNat
    rw [h'] at hinf
    cases hinf

theorem ofInt_isFin (f : Fmt) (hf : f = f32 ∨ f = f64) (z : Int) (hz : z.natAbs < 2 ^ 64) : (ofInt f z).isFin = true := by
  have hmax : 2 ^ 64 ≤ f.maxFinite := by rcases hf with rfl | rfl <;> decide +kernel
  exact roundRat_isFin f hf _ _ 1 Nat.one_pos (by omega)

end FpgoVerif.C02
