import FpgoVerif.Model.C14
/-! DoNotation / YieldFromIO / lifecycle flags: the reachable states of the two-goroutine system, every interleaving. -/
namespace FpgoVerif.C14

/-- The states the two goroutines reach together, by the effect goroutine's program counter: not started (the caller
    has or has not done Add), about to run the effect, about to signal, past Done (the caller may leave Wait and
    return, and can only return `v`), closed. -/
inductive DnOk (v : Nat) : DnSt → Prop
  | new : DnOk v {}
  | added : DnOk v { wg := 1, m := .m1 }
  | e0 : DnOk v { wg := 1, started := true, m := .m2, e := .e0 }
  | e1 : DnOk v { wg := 1, result := v, started := true, m := .m2, e := .e1 }
  | e2 {m} : m = .m2 ∨ m = .m3 ∨ m = .ret v → DnOk v { result := v, started := true, m := m, e := .e2 }
  | fin {m} : m = .m2 ∨ m = .m3 ∨ m = .ret v → DnOk v { result := v, started := true, done := true, m := m, e := .fin }

/-- An exhaustive check of the table: `dnStep` is evaluated on each of the six shapes (three positions of the
    caller in the last two) under both actions; every enabled step lands on a constructor again. -/
theorem dnOk_step {v s s'} (a : DnAct) (h : dnStep v s a = some s') (hi : DnOk v s) : DnOk v s' := by
  cases hi
  case e2 hm | fin hm =>
    rcases hm with rfl | rfl | rfl <;> cases a <;> simp [dnStep] at h <;> subst h <;> constructor <;> simp
  all_goals cases a <;> simp [dnStep] at h <;> subst h <;> constructor
  all_goals simp

theorem dnOk_reach {v s} (h : DnReach v s) : DnOk v s := by
  induction h with
  | init => exact .new
  | step a _ hs ih => exact dnOk_step a hs ih

theorem dn_ret {v s r} (h : DnReach v s) (hr : s.m = .ret r) : r = v := by
  cases dnOk_reach h
  -- only past `Done` can the caller have returned, and then `ret v` is the only `ret` allowed
  case e2 hm | fin hm => simp at hr; simpa [hr] using hm
  all_goals simp at hr

theorem dn_progress {v s} (h : DnReach v s) (hn : (∀ r, s.m ≠ .ret r) ∨ s.e ≠ .fin) : ∃ a s', dnStep v s a = some s' := by
  cases dnOk_reach h
  case fin hm =>
    rcases hm with rfl | rfl | rfl
    · exact ⟨.main, _, rfl⟩
    · exact ⟨.main, _, rfl⟩
    · simp at hn
  case new | added => exact ⟨.main, _, rfl⟩
  all_goals exact ⟨.eff, _, rfl⟩

theorem dn_flags {v s} (h : DnReach v s) :
    (s.started = true ↔ s.e ≠ .idle) ∧ (s.done = true ↔ s.e = .fin) ∧ (s.done = true → s.started = true) := by
  cases dnOk_reach h <;> simp

end FpgoVerif.C14
