import FpgoVerif.Model.C11
/-! C11: the closure nest of `den` realises the in-order traversal `run` and carries the handlers of its root;
    queued deliveries; the protocol fold. -/
namespace FpgoVerif.C11

@[simp] theorem emits_nil (w : World) (g : Tag) : w.emits [] g = w := by
  cases w; simp [World.emits]

theorem emit_eq_emits (w : World) (k : Kind) (g : Tag) : w.emit k g = w.emits [k] g := rfl

@[simp] theorem emits_emits (w : World) (a b : List Kind) (g : Tag) :
    (w.emits a g).emits b g = w.emits (a ++ b) g := by
  cases w; simp [World.emits]

@[simp] theorem emits_log (w : World) (a : List Kind) (g : Tag) :
    (w.emits a g).log = w.log ++ a.map (⟨·, g⟩) := rfl

@[simp] theorem emits_cell (w : World) (a : List Kind) (g : Tag) : (w.emits a g).cell = w.cell := rfl

@[simp] theorem emit_log (w : World) (k : Kind) (g : Tag) : (w.emit k g).log = w.log ++ [⟨k, g⟩] := rfl

theorem drop_emits (w : World) (ks : List Kind) (g : Tag) :
    (w.emits ks g).log.drop w.log.length = ks.map (⟨·, g⟩) := by simp

theorem drop_emits_emit (w : World) (ks : List Kind) (g : Tag) (k : Kind) (g' : Tag) :
    ((w.emits ks g).emit k g').log.drop w.log.length = ks.map (⟨·, g⟩) ++ [⟨k, g'⟩] := by
  simp [List.append_assoc]

theorem showEvs_kinds (ks : List Kind) (g : Tag) : showEvs (ks.map (⟨·, g⟩)) = joinEvs (showKinds ks g) := by
  simp [showEvs, showKinds, List.map_map, Function.comp_def]

theorem showEvs_kinds_next (ks : List Kind) (g : Tag) (k : Kind) (g' : Tag) :
    showEvs (ks.map (⟨·, g⟩) ++ [⟨k, g'⟩]) = joinEvs (showKinds ks g ++ showKinds [k] g') := by
  simp [showEvs, showKinds, List.map_map, Function.comp_def]

/-- The nest of closures built by Just/New/FlatMap/ObserveOn/SubscribeOn, when its effect is finally run on
    goroutine `g`, appends to the log exactly the chain `run` prescribes — every event once, in composition
    order, all on `g`, leaving the earlier log untouched — and returns `run`'s value. -/
theorem den_effect (t : Tree) (v : Nat) (g : Tag) (w : World) :
    (den t v).effect g w = ((run t v w.log.length).1, w.emits (run t v w.log.length).2 g) := by
  induction t generalizing v w with
  | J c | V a | JM id x _ => simp [den, just, run]
  | N id | W id | H id | G id => simp [den, new, userEffect, run, emit_eq_emits]
  | Z t ih => exact ih 0 w
  | FR t ih => simp [den, flatMap, doEffect, just, run, ih]
  | FL c t b iht ihb =>
    simp only [den, flatMap, doEffect, kont, run, iht, emit_eq_emits, emits_emits, ihb]
    simp [List.length_append, Nat.add_assoc]
  | FC c t b1 b2 iht ih1 ih2 =>
    simp only [den, flatMap, doEffect, kont, run, iht, emit_eq_emits, emits_emits]
    split <;> simp [ih1, ih2, List.length_append, Nat.add_assoc]
  | A x c b ih =>
    simp only [den, new, eval, doEffect, kont, run, emit_eq_emits, ih]
    simp
  | O h t ih | S h t ih => simp [den, observeOn, subscribeOn, run, ih]

theorem den_handlers (t : Tree) (v : Nat) : (den t v).obOn = rootOb t ∧ (den t v).subOn = rootSub t := by
  induction t generalizing v with
  | O h t ih => exact ⟨rfl, (ih v).2⟩
  | S h t ih => exact ⟨(ih v).1, rfl⟩
  | _ => exact ⟨rfl, rfl⟩

/-- a delivery waiting in the held handler's mailbox, as the implementation model queues it: value and goroutine -/
def qF (p : Nat × Tag) : World → World := fun w => w.emit (.next p.1) p.2

theorem queue_log (q : List (Nat × Tag)) (w : World) :
    ((q.map qF).foldl (fun w f => f w) w).log = w.log ++ q.map (fun p => ⟨.next p.1, p.2⟩) := by
  induction q generalizing w with
  | nil => simp
  | cons p q ih => simp [ih, qF]

theorem foldl_acc {σ : Type} (f : σ → String → σ × String) (ops : List String) (s : σ) (acc : List String) :
    ops.foldl (fun (a : σ × List String) op => ((f a.1 op).1, (f a.1 op).2 :: a.2)) (s, acc) =
      ((foldOps f s ops).1, (foldOps f s ops).2 ++ acc) := by
  induction ops generalizing s acc with
  | nil => simp [foldOps]
  | cons op ops ih =>
    simp only [List.foldl_cons, foldOps]
    rw [ih, ih (f s op).1 [(f s op).2]]
    simp [foldOps]

theorem foldOps_cons {σ : Type} (f : σ → String → σ × String) (s : σ) (op : String) (ops : List String) :
    foldOps f s (op :: ops) = ((foldOps f (f s op).1 ops).1, (foldOps f (f s op).1 ops).2 ++ [(f s op).2]) := by
  simp only [foldOps, List.foldl_cons]
  exact foldl_acc f ops (f s op).1 [(f s op).2]

theorem runOps_cons {σ : Type} (f : σ → String → σ × String) (s : σ) (op : String) (ops : List String) :
    runOps f s (op :: ops) = (f s op).2 :: runOps f (f s op).1 ops := by
  simp [runOps, foldOps_cons]

@[simp] theorem runOps_nil {σ : Type} (f : σ → String → σ × String) (s : σ) : runOps f s [] = [] := rfl

theorem runOps_eq {σ τ : Type} (R : σ → τ → Prop) (f : σ → String → σ × String) (g : τ → String → τ × String)
    (hstep : ∀ s t op, R s t → R (f s op).1 (g t op).1 ∧ (f s op).2 = (g t op).2)
    (ops : List String) (s : σ) (t : τ) (h : R s t) : runOps f s ops = runOps g t ops := by
  induction ops generalizing s t with
  | nil => rfl
  | cons op ops ih => rw [runOps_cons, runOps_cons, (hstep s t op h).2, ih _ _ (hstep s t op h).1]

end FpgoVerif.C11
