import FpgoVerif.Model.C06
/-! C06 — `Seg` (a null-terminated chain through a link function) under point updates.

    Two facts carry everything: a chain depends only on the links of its own nodes (`Seg.congr`), and
    behind a node whose predecessors keep their links the rest of the chain can be exchanged
    (`Seg.replace_tail`).  Appending at the far end, removing the far-end node and cutting a chain are
    instances of the latter. -/
namespace FpgoVerif.C06
scoped notation "Addr" => Nat

inductive Seg (f : Addr → Option Addr) : Option Addr → List Addr → Prop
  | nil : Seg f none []
  | cons (a : Addr) (l : List Addr) : Seg f (f a) l → Seg f (some a) (a :: l)

variable {f : Addr → Option Addr}

theorem Seg.head {o l} (h : Seg f o l) : o = l.head? := by cases h <;> rfl

theorem Seg.nil_of_none {l} (h : Seg f none l) : l = [] := by cases h; rfl

theorem Seg.last_eq {o} {l : List Addr} (h : Seg f o l.reverse) : o = l.getLast? := by
  rw [h.head, List.head?_reverse]

theorem Seg.congr {g : Addr → Option Addr} {o l} (h : Seg f o l) (hfg : ∀ a ∈ l, g a = f a) : Seg g o l := by
  induction h with
  | nil => exact .nil
  | cons x l _ ih =>
    refine .cons x l ?_
    rw [hfg x List.mem_cons_self]
    exact ih (fun a ha => hfg a (List.mem_cons_of_mem _ ha))

theorem Seg.frame {o l} (h : Seg f o l) (a : Addr) (b : Option Addr) (ha : a ∉ l) :
    Seg (upd f a b) o l :=
  h.congr fun _ hx => upd_other f a _ b (ne_of_mem_of_not_mem hx ha)

theorem Seg.push {o l} (h : Seg f o l) (a : Addr) (ha : a ∉ l) :
    Seg (upd f a o) (some a) (a :: l) := by
  refine .cons a l ?_
  rw [upd_same]; exact h.frame a o ha

theorem Seg.tail {a l} (h : Seg f (some a) (a :: l)) : Seg f (f a) l := by
  cases h with | cons _ _ h => exact h

theorem Seg.drop {o} {pre : List Addr} {a suf} (h : Seg f o (pre ++ a :: suf)) :
    Seg f (f a) suf := by
  induction pre generalizing o with
  | nil => cases h with | cons _ _ h => exact h
  | cons x pre ih => cases h with | cons _ _ h => exact ih h

theorem Seg.replace_tail {g : Addr → Option Addr} {o} {pre : List Addr} {a suf suf'}
    (h : Seg f o (pre ++ a :: suf)) (hpre : ∀ x ∈ pre, g x = f x) (hs : Seg g (g a) suf') :
    Seg g o (pre ++ a :: suf') := by
  induction pre generalizing o with
  | nil => cases h with | cons _ _ h => exact .cons a suf' hs
  | cons x pre ih =>
    cases h with
    | cons _ _ h =>
      refine .cons x _ ?_
      rw [hpre x List.mem_cons_self]
      exact ih h (fun y hy => hpre y (List.mem_cons_of_mem _ hy))

theorem Seg.cut {g : Addr → Option Addr} {o} {pre : List Addr} {a suf} (h : Seg f o (pre ++ a :: suf))
    (hpre : ∀ x ∈ pre, g x = f x) (ha : g a = none) : Seg g o (pre ++ [a]) :=
  h.replace_tail hpre (ha ▸ .nil)

theorem upd_last_pre {β} (f : Addr → β) {pre : List Addr} {b : Addr} (c : β) (hnd : (pre ++ [b]).Nodup) :
    ∀ x ∈ pre, upd f b c x = f x :=
  fun x hx => upd_other f b x c ((List.nodup_append.1 hnd).2.2 x hx b (List.mem_singleton.2 rfl))

theorem Seg.snoc {o l} (h : Seg f o l) (n b : Addr) (hn : n ∉ l) (hfn : f n = none)
    (hnd : l.Nodup) (hb : l.getLast? = some b) :
    Seg (upd f b (some n)) o (l ++ [n]) := by
  obtain ⟨pre, rfl⟩ := List.getLast?_eq_some_iff.1 hb
  have hnb : n ≠ b := fun e => hn (by simp [e])
  rw [List.append_assoc]
  refine h.replace_tail (upd_last_pre f _ hnd) ?_
  rw [upd_same]
  exact .cons n [] (by rw [upd_other f b n _ hnb, hfn]; exact .nil)

/-- the repaired code clears the dangling link -/
theorem Seg.unsnoc {f : Addr → Option Addr} {o l} (n : Addr) (h : Seg f o (l ++ [n]))
    (hnd : (l ++ [n]).Nodup) :
    (∀ b, l.getLast? = some b → Seg (upd f b none) o l) ∧ (l = [] → o = some n) := by
  refine ⟨fun b hb => ?_, fun hl => by subst hl; exact h.head⟩
  obtain ⟨pre, rfl⟩ := List.getLast?_eq_some_iff.1 hb
  rw [List.append_assoc] at h
  exact h.cut (upd_last_pre f _ (List.nodup_append.1 hnd).1) (upd_same f b none)

theorem Seg.next_some {f : Addr → Option Addr} {o} {pre : List Addr} {a b suf} (h : Seg f o (pre ++ a :: b :: suf)) :
    f a = some b := h.drop.head

theorem Seg.next_last {f : Addr → Option Addr} {o} {pre : List Addr} {a} (h : Seg f o (pre ++ [a])) :
    f a = none := h.drop.head

theorem nodup_bound : ∀ (n : Nat) (l : List Nat), l.Nodup → (∀ a ∈ l, a < n) → l.length ≤ n := by
  intro n l hnd h
  have := hnd.length_le_of_subset (l₂ := List.range n) fun a ha => List.mem_range.2 (h a ha)
  rwa [List.length_range] at this

end FpgoVerif.C06
