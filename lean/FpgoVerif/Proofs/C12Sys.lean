import FpgoVerif.Proofs.C12MB
import FpgoVerif.Model.C12Sys
/-! Invariants of the actor system: the spawn tree (`TreeInv`), the per-actor mailbox invariant, the
    effect log. -/
namespace FpgoVerif.C12

theorem step_flag_mono {cap s t} (a : Act) (h : step cap s a = some t) (hf : s.flag = true) : t.flag = true := by
  cases a <;> simp only [step] at h <;> (repeat' split at h) <;> cases h <;> first | exact hf | rfl

/-- one conjunct per stage of the `Spawn` call that made `c` under `p`: 0 created, 1 found the parent open, 2 parent
    pointer set, 3 returned; `cs`: `p` was closed when the call began -/
def StageOK (s : Sys) (c p : Nat) (cs : Bool) : Prop :=
  (s.stage c = 0 → s.parent c = none ∧ c ∉ s.children p ∧ (cs = true → (s.mb p).flag = true)) ∧
  (s.stage c = 1 → s.parent c = none ∧ c ∉ s.children p ∧ cs = false) ∧
  (s.stage c = 2 → s.parent c = some p ∧ c ∉ s.children p ∧ cs = false) ∧
  (s.stage c = 3 → (s.parent c = some p ∧ c ∈ s.children p ∧ cs = false) ∨
                    (s.parent c = none ∧ c ∉ s.children p ∧ (s.mb p).flag = true))

structure TreeInv (s : Sys) : Prop where
  bound : ∀ c p cs, s.origin c = some (p, cs) → p < c ∧ c < s.count
  stageLe : ∀ c, s.stage c ≤ 3
  rootP : ∀ c, s.origin c = none → s.parent c = none ∧ s.stage c = 3
  st : ∀ c p cs, s.origin c = some (p, cs) → StageOK s c p cs
  kids : ∀ q c, c ∈ s.children q → (∃ cs, s.origin c = some (q, cs)) ∧ s.stage c = 3

theorem treeInv_init (script) : TreeInv (Sys.init script) := by
  refine ⟨?_, ?_, ?_, ?_, ?_⟩ <;> simp [Sys.init]

/-- One pattern for the later atoms of `Spawn`: the call of a spawned actor `c` (not yet returned, so nobody's child)
    moves on to stage `n`; every other actor keeps its parent pointer and its membership in lists of children. -/
theorem TreeInv.advance {s t : Sys} (hi : TreeInv s) {c p n : Nat} {cs : Bool} (ho : s.origin c = some (p, cs))
    (hn : n ≤ 3) (hlt : s.stage c < 3) (hcount : t.count = s.count) (horigin : t.origin = s.origin) (hmb : t.mb = s.mb)
    (hstage : t.stage = upd s.stage c n) (hparent : ∀ c', c' ≠ c → t.parent c' = s.parent c')
    (hchildren : ∀ q c', c' ≠ c → (c' ∈ t.children q ↔ c' ∈ s.children q))
    (hself : StageOK t c p cs) (hkid : ∀ q, c ∈ t.children q → c ∈ s.children q ∨ (q = p ∧ n = 3)) : TreeInv t := by
  refine ⟨?_, ?_, ?_, ?_, ?_⟩
  · intro c' p' cs' ho'; rw [horigin] at ho'; rw [hcount]; exact hi.bound c' p' cs' ho'
  · intro c'
    rw [hstage]; unfold upd; split
    · exact hn
    · exact hi.stageLe c'
  · intro c' ho'
    rw [horigin] at ho'
    have e : c' ≠ c := fun e => by rw [e, ho] at ho'; cases ho'
    rw [hparent c' e, hstage, upd_other _ _ _ _ e]; exact hi.rootP c' ho'
  · intro c' p' cs' ho'
    rw [horigin] at ho'
    by_cases e : c' = c
    · subst e; rw [ho] at ho'; cases ho'; exact hself
    · have := hi.st c' p' cs' ho'
      unfold StageOK at this ⊢
      rw [hstage, upd_other _ _ _ _ e, hparent c' e, hmb]
      simp only [hchildren p' c' e]
      exact this
  · intro q c' hc'
    rw [horigin, hstage]
    by_cases e : c' = c
    · subst e
      have hk := (hkid q hc').resolve_left fun h => Nat.ne_of_lt hlt (hi.kids q c' h).2
      rw [hk.1, upd_same]; exact ⟨⟨cs, ho⟩, hk.2⟩
    · rw [upd_other _ _ _ _ e]; exact hi.kids q c' ((hchildren q c' e).1 hc')

theorem sysStep_treeInv {s t} (a : SAct) (hi : TreeInv s) (h : sysStep s a = some t) : TreeInv t := by
  cases a with
  | newRoot cap =>
    simp only [sysStep] at h; cases h
    exact { hi with bound := fun c p cs ho => ⟨(hi.bound c p cs ho).1, Nat.lt_succ_of_lt (hi.bound c p cs ho).2⟩ }
  | mb a x =>
    simp only [sysStep] at h
    split at h
    · split at h
      · next m hm =>
        cases h
        refine { hi with st := fun c p cs ho => ?_ }
        have hs := hi.st c p cs ho
        have mono : (s.mb p).flag = true → (upd s.mb a m p).flag = true := by
          intro hf
          simp only [upd]
          split
          · next e => subst e; exact step_flag_mono x hm hf
          · exact hf
        refine ⟨fun h0 => ⟨(hs.1 h0).1, (hs.1 h0).2.1, fun hc => mono ((hs.1 h0).2.2 hc)⟩, hs.2.1, hs.2.2.1, ?_⟩
        intro h3
        rcases hs.2.2.2 h3 with h | h
        · exact Or.inl h
        · exact Or.inr ⟨h.1, h.2.1, mono h.2.2⟩
      · cases h
    · cases h
  | spawnNew p =>
    simp only [sysStep] at h
    split at h
    · next hp =>
      cases h
      have hfreshO : s.origin s.count = none := by
        cases ho : s.origin s.count with
        | none => rfl
        | some pc => exact absurd (hi.bound _ pc.1 pc.2 (by rw [ho])).2 (Nat.lt_irrefl _)
      have hnotkid : ∀ q, s.count ∉ s.children q := by
        intro q hq
        obtain ⟨⟨cs, ho⟩, _⟩ := hi.kids q _ hq
        rw [hfreshO] at ho; cases ho
      refine ⟨?_, ?_, ?_, ?_, ?_⟩
      · intro c p' cs ho
        simp only [upd] at ho
        split at ho
        · next e => subst e; cases ho; exact ⟨hp, Nat.lt_succ_self _⟩
        · exact ⟨(hi.bound c p' cs ho).1, Nat.lt_succ_of_lt (hi.bound c p' cs ho).2⟩
      · intro c; simp only [upd]; split
        · omega
        · exact hi.stageLe c
      · intro c ho
        simp only [upd] at ho ⊢
        split at ho
        · cases ho
        · next e => simp only [if_neg e]; exact hi.rootP c ho
      · intro c p' cs ho
        simp only [upd] at ho
        split at ho
        · next e =>
          subst e; cases ho
          refine ⟨fun _ => ⟨(hi.rootP _ hfreshO).1, hnotkid p, fun hc => hc⟩, ?_, ?_, ?_⟩ <;>
            (intro h'; simp [upd] at h')
        · next e =>
          have hs := hi.st c p' cs ho
          simpa [StageOK, upd, e] using hs
      · intro q c hc
        have := hi.kids q c hc
        have hne : c ≠ s.count := fun e => hnotkid q (e ▸ hc)
        simpa [upd, hne] using this
    · cases h
  | spawnCheck c =>
    simp only [sysStep] at h
    split at h
    · next p cs0 ho =>
      split at h
      · next h0 =>
        have hs := (hi.st c p cs0 ho).1 h0
        split at h
        · next hf =>
          cases h
          refine hi.advance ho (Nat.le_refl 3) (by omega) rfl rfl rfl rfl (fun _ _ => rfl) (fun _ _ _ => Iff.rfl) ?_
            (fun _ => Or.inl)
          refine ⟨?_, ?_, ?_, fun _ => Or.inr ⟨hs.1, hs.2.1, hf⟩⟩ <;> simp only [upd_same] <;> exact fun h' => nomatch h'
        · next hf =>
          cases h
          refine hi.advance ho (by omega) (by omega) rfl rfl rfl rfl (fun _ _ => rfl) (fun _ _ _ => Iff.rfl) ?_
            (fun _ => Or.inl)
          have hcs : cs0 = false := Bool.eq_false_iff.2 fun hc => hf (hs.2.2 hc)
          refine ⟨?_, fun _ => ⟨hs.1, hs.2.1, hcs⟩, ?_, ?_⟩ <;> simp only [upd_same] <;> exact fun h' => nomatch h'
      · cases h
    · cases h
  | spawnSetParent c =>
    simp only [sysStep] at h
    split at h
    · next p cs0 ho =>
      split at h
      · next h1 =>
        cases h
        have hs := (hi.st c p cs0 ho).2.1 h1
        refine hi.advance ho (by omega) (by omega) rfl rfl rfl rfl (fun c' e => upd_other _ _ _ _ e) (fun _ _ _ => Iff.rfl) ?_
          (fun _ => Or.inl)
        refine ⟨?_, ?_, fun _ => ⟨upd_same _ _ _, hs.2.1, hs.2.2⟩, ?_⟩ <;> simp only [upd_same] <;> exact fun h' => nomatch h'
      · cases h
    · cases h
  | spawnSetChild c =>
    simp only [sysStep] at h
    split at h
    · next p cs0 ho =>
      split at h
      · next h2 =>
        cases h
        have hs := (hi.st c p cs0 ho).2.2.1 h2
        have hmem : ∀ q c', c' ∈ upd s.children p (c :: s.children p) q ↔ (c' = c ∧ q = p) ∨ c' ∈ s.children q := by
          intro q c'
          by_cases e : q = p
          · subst e; rw [upd_same, List.mem_cons]; exact or_congr_left ⟨fun h => ⟨h, rfl⟩, fun h => h.1⟩
          · rw [upd_other _ _ _ _ e]; exact ⟨Or.inr, fun h => h.resolve_left fun h' => e h'.2⟩
        refine hi.advance ho (Nat.le_refl 3) (by omega) rfl rfl rfl rfl (fun _ _ => rfl)
          (fun q c' e => (hmem q c').trans ⟨fun h => h.resolve_left fun h' => e h'.1, Or.inr⟩) ?_
          (fun q hq => ((hmem q c).1 hq).elim (fun h' => Or.inr ⟨h'.2, rfl⟩) Or.inl)
        refine ⟨?_, ?_, ?_, fun _ => Or.inl ⟨hs.1, (hmem p c).2 (Or.inl ⟨rfl, rfl⟩), hs.2.2⟩⟩ <;> simp only [upd_same] <;>
          exact fun h' => nomatch h'
      · cases h
    · cases h

theorem sreach_treeInv {script s} (h : SReach script s) : TreeInv s := by
  induction h with
  | init => exact treeInv_init script
  | step a _ hs ih => exact sysStep_treeInv a ih hs

theorem sysStep_cases {s t} (x : SAct) (h : sysStep s x = some t) :
    (t.mb = s.mb ∧ t.effLog = s.effLog) ∨
    ∃ b y m, step (s.cap b) (s.mb b) y = some m ∧ t.mb = upd s.mb b m ∧
      t.effLog = s.effLog ++ (started (s.mb b) m).map (fun j => (b, b, j)) := by
  cases x with
  | mb b y =>
    simp only [sysStep] at h
    split at h
    · split at h
      · next m hm => cases h; exact Or.inr ⟨b, y, m, hm, rfl, rfl⟩
      · cases h
    · cases h
  | newRoot c => simp only [sysStep] at h; cases h; exact Or.inl ⟨rfl, rfl⟩
  | spawnNew c | spawnCheck c | spawnSetParent c | spawnSetChild c =>
    simp only [sysStep] at h; (repeat' split at h) <;> cases h <;> exact Or.inl ⟨rfl, rfl⟩

theorem sysStep_mb {s t} (x : SAct) (h : sysStep s x = some t) (a : Nat) :
    t.mb a = s.mb a ∨ ∃ y, step (s.cap a) (s.mb a) y = some (t.mb a) := by
  rcases sysStep_cases x h with ⟨hm, _⟩ | ⟨b, y, m, hy, hm, _⟩
  · exact Or.inl (by rw [hm])
  · rw [hm]
    by_cases e : a = b
    · subst e; rw [upd_same]; exact Or.inr ⟨y, hy⟩
    · rw [upd_other _ _ _ _ e]; exact Or.inl rfl

theorem sreach_mbInv {script s} (ho : ∀ a, OwnedScript (script a)) (h : SReach script s) :
    ∀ a, Inv (script a) (s.mb a) := by
  induction h with
  | init => intro a; exact inv_init (ho a)
  | step x _ hs ih =>
    intro a
    rcases sysStep_mb x hs a with e | ⟨y, hy⟩
    · rw [e]; exact ih a
    · exact step_inv y (ih a) hy

/-- the effect is always called with the actor whose loop makes the call -/
theorem sreach_self {script s} (h : SReach script s) : ∀ e ∈ s.effLog, e.2.1 = e.1 := by
  induction h with
  | init => intro e he; cases he
  | step x _ hs ih =>
    rcases sysStep_cases x hs with ⟨_, hl⟩ | ⟨b, y, m, _, _, hl⟩ <;> rw [hl]
    · exact ih
    · intro e he
      rcases List.mem_append.mp he with h1 | h1
      · exact ih e h1
      · obtain ⟨j, _, rfl⟩ := List.mem_map.mp h1; rfl

def runSActs : Sys → List SAct → Option Sys
  | s, [] => some s
  | s, a :: as => match sysStep s a with
    | some t => runSActs t as
    | none => none

theorem sreach_run {script} : ∀ (acts : List SAct) {s t}, SReach script s → runSActs s acts = some t → SReach script t
  | [], s, t, hr, h => by simp only [runSActs] at h; cases h; exact hr
  | a :: as, s, t, hr, h => by
    simp only [runSActs] at h
    split at h
    · next u hu => exact sreach_run as (SReach.step a hr hu) h
    · cases h

theorem sreach_of_run {script} (acts : List SAct) {t} (h : runSActs (Sys.init script) acts = some t) :
    SReach script t := sreach_run acts SReach.init h

end FpgoVerif.C12
