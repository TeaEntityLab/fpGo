import FpgoVerif.Proofs.C06Seg
/-! Representation invariant of the pointer-level model; `sync.Pool.Get` and `generateNode`. -/
namespace FpgoVerif.C06

/-- everything except the `nodeCount` bookkeeping (which KeepNodePoolCount sets up front: `keepStart`, `keepLoop`
    and `put_cut` run while `nodeCount` is already n and the free list is not yet; they are stated on `Rep0`) -/
structure Rep0 (q : Q) (vs : List Int) (chain pool : List Addr) : Prop where
  hnext : Seg q.next q.first chain
  hprev : Seg q.prev q.last chain.reverse
  hpool : Seg q.next q.poolFirst pool
  nd    : (chain ++ pool).Nodup
  lt    : ∀ a ∈ chain ++ pool, a < q.fresh
  hval  : chain.map q.val = vs.map some
  hcount : q.count = chain.length
  /- `gc`: the nodes the sync.Pool holds -/
  gnd   : q.gc.Nodup
  gdisj : ∀ a ∈ q.gc, a ∉ chain ++ pool
  glt   : ∀ a ∈ q.gc, a < q.fresh
  gzero : ∀ a ∈ q.gc, q.next a = none ∧ q.prev a = none ∧ q.val a = none

/-- `chain` are the addresses of the stored items from head to tail, `vs` their values, `pool` the free list -/
structure Rep (q : Q) (vs : List Int) (chain pool : List Addr) : Prop extends Rep0 q vs chain pool where
  hnode : q.nodeCount = pool.length

theorem map_upd_of_not_mem {β} (f : Addr → β) (a : Addr) (b : β) (l : List Addr) (h : a ∉ l) :
    l.map (upd f a b) = l.map f :=
  List.map_congr_left fun x hx => upd_other f a x b (ne_of_mem_of_not_mem hx h)

theorem upd_of_gc {β} {gc : List Addr} {a x : Addr} (ha : a ∈ gc) (hx : x ∉ gc) (f : Addr → β) (b : β) :
    upd f x b a = f a :=
  upd_other f x a b (ne_of_mem_of_not_mem ha hx)

/-- `l` lists nodes the queue holds: each once, all allocated, none in the sync.Pool.  Of the two lists of
    `Rep0` these three facts only see the concatenation, so they follow the nodes around when a node
    changes lists.  The fields are named as in `Rep0`: `{ o, h with … }` is the invariant with the
    `Owns` of the new lists, the fields given, and the rest of `h`. -/
structure Owns (fresh : Addr) (gc l : List Addr) : Prop where
  nd : l.Nodup
  lt : ∀ a ∈ l, a < fresh
  gdisj : ∀ a ∈ gc, a ∉ l

theorem Owns.sublist {fresh gc l l'} (o : Owns fresh gc l) (hs : l'.Sublist l) : Owns fresh gc l' :=
  ⟨o.nd.sublist hs, fun a ha => o.lt a (hs.subset ha), fun a ha hm => o.gdisj a ha (hs.subset hm)⟩

theorem Owns.perm {fresh gc l l'} (o : Owns fresh gc l) (hp : l'.Perm l) : Owns fresh gc l' :=
  ⟨hp.nodup_iff.2 o.nd, fun a ha => o.lt a (hp.mem_iff.1 ha), fun a ha hm => o.gdisj a ha (hp.mem_iff.1 hm)⟩

theorem Owns.cons {fresh gc l n} (o : Owns fresh gc l) (hn : n ∉ l) (hlt : n < fresh) (hg : n ∉ gc) :
    Owns fresh gc (n :: l) :=
  ⟨List.nodup_cons.2 ⟨hn, o.nd⟩, fun a ha => (List.mem_cons.1 ha).elim (· ▸ hlt) (o.lt a),
    fun a ha hm => (List.mem_cons.1 hm).elim (fun e => hg (e ▸ ha)) (o.gdisj a ha)⟩

theorem Owns.length_lt {fresh gc l} (o : Owns fresh gc l) : l.length < fresh + 1 :=
  Nat.lt_succ_of_le (nodup_bound fresh l o.nd o.lt)

theorem Rep0.owns {q vs chain pool} (h : Rep0 q vs chain pool) : Owns q.fresh q.gc (chain ++ pool) :=
  ⟨h.nd, h.lt, h.gdisj⟩

theorem Rep0.chain_nodup {q vs chain pool} (h : Rep0 q vs chain pool) : chain.Nodup :=
  (List.nodup_append.mp h.nd).1
theorem Rep0.pool_nodup {q vs chain pool} (h : Rep0 q vs chain pool) : pool.Nodup :=
  (List.nodup_append.mp h.nd).2.1
theorem Rep0.disj {q vs chain pool} (h : Rep0 q vs chain pool) {a} (hc : a ∈ chain) : a ∉ pool :=
  fun hp => (List.nodup_append.mp h.nd).2.2 a hc a hp rfl
theorem Rep0.length_eq {q vs chain pool} (h : Rep0 q vs chain pool) : vs.length = chain.length := by
  have := congrArg List.length h.hval; simpa using this.symm
theorem Rep0.first_eq {q vs chain pool} (h : Rep0 q vs chain pool) : q.first = chain.head? := h.hnext.head
theorem Rep0.last_eq {q vs chain pool} (h : Rep0 q vs chain pool) : q.last = chain.getLast? := h.hprev.last_eq

structure Same (q q' : Q) : Prop where
  first : q'.first = q.first
  last : q'.last = q.last
  count : q'.count = q.count
  poolFirst : q'.poolFirst = q.poolFirst
  nodeCount : q'.nodeCount = q.nodeCount

theorem Same.refl (q : Q) : Same q q := ⟨rfl, rfl, rfl, rfl, rfl⟩
theorem Same.trans {a b c : Q} (h1 : Same a b) (h2 : Same b c) : Same a c :=
  ⟨h2.first.trans h1.first, h2.last.trans h1.last, h2.count.trans h1.count, h2.poolFirst.trans h1.poolFirst,
   h2.nodeCount.trans h1.nodeCount⟩

/-- `sync.Pool.Get`, whatever the runtime chooses -/
theorem poolGet_spec {q : Q} {vs chain pool} (h : Rep0 q vs chain pool) (q' : Q) (n : Addr)
    (hg : poolGet q = (q', n)) :
    Rep0 q' vs chain pool ∧ Same q q' ∧ n ∉ chain ++ pool ∧ n ∉ q'.gc ∧ n < q'.fresh ∧
      q'.next n = none ∧ q'.prev n = none ∧ q'.val n = none := by
  unfold poolGet at hg
  cases hp : q.gc[q.pick q.gets]? with
  | some a =>
    rw [hp] at hg
    obtain ⟨rfl, rfl⟩ := Prod.mk.inj hg
    have ha : a ∈ q.gc := List.mem_of_getElem? hp
    have hsub : ∀ b ∈ q.gc.erase a, b ∈ q.gc := fun _ => List.mem_of_mem_erase
    exact ⟨⟨h.hnext, h.hprev, h.hpool, h.nd, h.lt, h.hval, h.hcount, h.gnd.erase a,
        fun b hb => h.gdisj b (hsub b hb), fun b hb => h.glt b (hsub b hb), fun b hb => h.gzero b (hsub b hb)⟩,
      ⟨rfl, rfl, rfl, rfl, rfl⟩, h.gdisj a ha, fun hm => (h.gnd.mem_erase_iff.1 hm).1 rfl, h.glt a ha, h.gzero a ha⟩
  | none =>
    rw [hp] at hg
    obtain ⟨rfl, rfl⟩ := Prod.mk.inj hg
    have hf : q.fresh ∉ chain ++ pool := fun hm => Nat.lt_irrefl _ (h.lt _ hm)
    have hfc : q.fresh ∉ chain := fun hm => hf (List.mem_append_left _ hm)
    have hfg : q.fresh ∉ q.gc := fun hm => Nat.lt_irrefl _ (h.glt _ hm)
    exact ⟨⟨h.hnext.frame _ _ hfc, h.hprev.frame _ _ (mt List.mem_reverse.1 hfc),
        h.hpool.frame _ _ fun hm => hf (List.mem_append_right _ hm), h.nd, fun a ha => Nat.lt_succ_of_lt (h.lt a ha),
        (map_upd_of_not_mem _ _ _ _ hfc).trans h.hval, h.hcount, h.gnd, h.gdisj,
        fun a ha => Nat.lt_succ_of_lt (h.glt a ha),
        fun a ha => by simp only [upd_of_gc ha hfg]; exact h.gzero a ha⟩,
      ⟨rfl, rfl, rfl, rfl, rfl⟩, hf, hfg, Nat.lt_succ_self _, upd_same .., upd_same .., upd_same ..⟩

theorem generateNode_spec {q : Q} {vs chain pool} (h : Rep q vs chain pool) (q' : Q) (n : Addr)
    (hg : generateNode q = (q', n)) :
    ∃ pool', Rep q' vs chain pool' ∧ pool'.length = pool.length - 1 ∧ n ∉ chain ++ pool' ∧ n ∉ q'.gc ∧
      n < q'.fresh ∧ q'.next n = none ∧ q'.prev n = none ∧
      q'.first = q.first ∧ q'.last = q.last ∧ q'.count = q.count := by
  unfold generateNode at hg
  cases hp : q.poolFirst with
  | none =>
    rw [hp] at hg
    obtain rfl : pool = [] := (hp ▸ h.hpool).nil_of_none
    obtain ⟨h0, hs, hn, hng, hlt, hnn, hnp, _⟩ := poolGet_spec h.toRep0 q' n hg
    exact ⟨[], ⟨h0, hs.nodeCount.trans h.hnode⟩, rfl, hn, hng, hlt, hnn, hnp, hs.first, hs.last, hs.count⟩
  | some m =>
    rw [hp] at hg
    obtain ⟨rfl, rfl⟩ := Prod.mk.inj hg
    obtain ⟨pool', rfl⟩ := List.head?_eq_some_iff.1 (hp ▸ h.hpool).head.symm
    have hm : m ∉ chain ++ pool' := (List.nodup_cons.1 (List.perm_middle.nodup_iff.1 h.nd)).1
    have hmc : m ∉ chain := fun hc => hm (List.mem_append_left _ hc)
    have hmg : m ∉ q.gc := fun hg => h.gdisj m hg (by simp)
    have o := h.owns.sublist ((List.sublist_cons_self m pool').append_left chain)
    refine ⟨pool', { o, h with
        hnext := h.hnext.frame _ _ hmc, hprev := h.hprev.frame _ _ (mt List.mem_reverse.1 hmc),
        hpool := (hp ▸ h.hpool).tail.frame _ _ fun hc => hm (List.mem_append_right _ hc),
        gzero := fun a ha => by simp only [upd_of_gc ha hmg]; exact h.gzero a ha, hnode := ?_ },
      by simp, hm, hmg, h.lt m (by simp), upd_same .., upd_same .., rfl, rfl, rfl⟩
    have := h.hnode
    simp only [List.length_cons] at this ⊢
    omega

end FpgoVerif.C06
