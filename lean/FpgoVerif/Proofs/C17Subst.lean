import FpgoVerif.Model.C17Subst
/-! For C17_url: sequential `ReplaceAll` on a well-formed template is simultaneous substitution. -/
namespace FpgoVerif.C17

theorem skip_append (pat rep l : Str) (c : Char) (rest : Str) :
    replaceAllAux pat rep (l.length + 1) (l ++ c :: rest) = replaceAllAux pat rep 0 rest := by
  induction l with
  | nil => rfl
  | cons d l ih => simpa [replaceAllAux] using ih

theorem copy_char (p rep rest : Str) {c : Char} (hc : c ≠ '{') :
    replaceAllAux ('{' :: p) rep 0 (c :: rest) = c :: replaceAllAux ('{' :: p) rep 0 rest := by
  have : ('{' == c) = false := beq_false_of_ne (Ne.symm hc)
  simp only [replaceAllAux, List.isPrefixOf_cons_cons, this, Bool.false_and, Bool.false_eq_true, if_false]

theorem copy_nobrace (p rep l rest : Str) (h : '{' ∉ l) :
    replaceAllAux ('{' :: p) rep 0 (l ++ rest) = l ++ replaceAllAux ('{' :: p) rep 0 rest := by
  induction l with
  | nil => rfl
  | cons c l ih =>
    rw [List.cons_append, copy_char _ _ _ fun e => h (e ▸ .head _), ih fun hd => h (.tail _ hd), List.cons_append]

theorem prefix_lemma (k n rest : Str) (hk : '}' ∉ k) (hn : '}' ∉ n) :
    (k ++ ['}']).isPrefixOf (n ++ '}' :: rest) = decide (k = n) := by
  induction k generalizing n with
  | nil =>
    cases n with
    | nil => simp
    | cons d n =>
      have : '}' ≠ d := fun e => hn (e ▸ .head _)
      simp [List.isPrefixOf_cons_cons, this]
  | cons c k ih =>
    cases n with
    | nil =>
      have : c ≠ '}' := fun e => hk (e ▸ .head _)
      simp [List.isPrefixOf_cons_cons, this]
    | cons d n =>
      simp only [List.cons_append, List.isPrefixOf_cons_cons, ih n (fun h => hk (.tail _ h)) fun h => hn (.tail _ h)]
      by_cases e : c = d <;> simp [e]

/-- one step of the loop on token level -/
def substTok (k v : Str) (t : Tok) : List Tok :=
  if t = .hole k then v.map .lit else [t]

def Clean (ts : List Tok) : Prop := ∀ t ∈ ts, t.clean = true

theorem clean_cons {t : Tok} {ts : List Tok} : Clean (t :: ts) ↔ t.clean = true ∧ Clean ts := List.forall_mem_cons

theorem render_lits (v : Str) : render (v.map .lit) = v :=
  (List.flatMap_map ..).trans (List.flatMap_singleton' v)

theorem render_cons (t : Tok) (ts : List Tok) : render (t :: ts) = renderTok t ++ render ts := List.flatMap_cons

theorem render_append (a b : List Tok) : render (a ++ b) = render a ++ render b := List.flatMap_append

theorem not_contains {l : Str} {c : Char} (h : (!l.contains c) = true) : c ∉ l := by
  simpa using h

theorem render_single (t : Tok) : render [t] = renderTok t := by simp [render]

theorem replaceAllAux_tok (k v : Str) (t : Tok) (rest : Str) (ht : t.clean = true) (hk : '}' ∉ k) :
    replaceAllAux (placeholder k) v 0 (renderTok t ++ rest) =
      render (substTok k v t) ++ replaceAllAux (placeholder k) v 0 rest := by
  cases t with
  | lit c => exact copy_char _ _ _ (by simpa [Tok.clean] using ht)
  | hole n =>
    simp only [Tok.clean, Bool.and_eq_true] at ht
    have hpre := prefix_lemma k n rest hk (not_contains ht.2)
    simp only [renderTok, placeholder, List.cons_append, List.append_assoc, List.nil_append, replaceAllAux,
      List.isPrefixOf_cons_cons, beq_self_eq_true, Bool.true_and, hpre, substTok]
    by_cases e : k = n
    · -- a match: `v`, and the remaining `k}` of the occurrence is skipped
      subst e
      simp only [decide_true, if_true, List.length_cons, List.length_append, List.length_nil, Nat.add_sub_cancel,
        Nat.zero_add, skip_append, render_lits]
    · -- no match: `{` is copied by the failed test, `n` and `}` as text without `{`
      have hne : Tok.hole n ≠ .hole k := fun h => e (Tok.hole.inj h).symm
      simp only [e, decide_false, Bool.false_eq_true, if_false, if_neg hne, copy_nobrace _ _ n _ (not_contains ht.1),
        copy_char _ _ _ (show '}' ≠ '{' by decide), render_single, renderTok, placeholder, List.cons_append,
        List.append_assoc, List.nil_append]

theorem replaceAll_render (k v : Str) (ts : List Tok) (hc : Clean ts) (hk : '}' ∉ k) :
    replaceAll (render ts) (placeholder k) v = render (ts.flatMap (substTok k v)) := by
  unfold replaceAll
  induction ts with
  | nil => rfl
  | cons t ts ih =>
    rw [List.flatMap_cons, render_append, render_cons, replaceAllAux_tok k v t _ (hc t (.head _)) hk,
      ih fun t' h => hc t' (.tail _ h)]

theorem clean_flatMap_substTok (k v : Str) (ts : List Tok) (hc : Clean ts) (hv : '{' ∉ v) :
    Clean (ts.flatMap (substTok k v)) := by
  intro t ht
  obtain ⟨t0, h0, h1⟩ := List.mem_flatMap.1 ht
  unfold substTok at h1
  split at h1
  · obtain ⟨c, hcv, rfl⟩ := List.mem_map.1 h1
    have : c ≠ '{' := fun e => hv (e ▸ hcv)
    simpa [Tok.clean] using this
  · exact List.mem_singleton.1 h1 ▸ hc _ h0

theorem paramsOK_cons {kv : Str × Val} {ps : List (Str × Val)} (h : paramsOK (kv :: ps) = true) :
    '}' ∉ kv.1 ∧ '{' ∉ sprintV kv.2 ∧ paramsOK ps = true := by
  simp only [paramsOK, List.all_cons, Bool.and_eq_true] at h
  exact ⟨not_contains h.1.1, not_contains h.1.2, h.2⟩

/-- Substituting the first entry and then the rest simultaneously is substituting all simultaneously: the literals
    a value turned into are never looked at again, and `lookupKey` asks the first entry first. -/
theorem substTok_substTokSpec (k : Str) (v : Val) (ps : List (Str × Val)) (t : Tok) :
    (substTok k (sprintV v) t).flatMap (substTokSpec ps) = substTokSpec ((k, v) :: ps) t := by
  cases t with
  | lit c => simp [substTok, substTokSpec]
  | hole n =>
    by_cases e : k = n
    · subst e
      have hl (s : Str) : (s.map Tok.lit).flatMap (substTokSpec ps) = s :=
        (List.flatMap_map ..).trans (List.flatMap_singleton' s)
      simp [substTok, substTokSpec, lookupKey, hl]
    · have hne : Tok.hole n ≠ Tok.hole k := fun h => e (Tok.hole.inj h).symm
      simp [substTok, substTokSpec, lookupKey, e, hne]

theorem replaceLoop_render (ts : List Tok) (ps : List (Str × Val)) (hc : Clean ts)
    (hp : paramsOK ps = true) : replaceLoop false (render ts) ps = Spec.subst ts ps := by
  simp only [replaceLoop, Bool.false_eq_true, if_false]
  induction ps generalizing ts with
  | nil =>
    have : substTokSpec [] = renderTok := funext fun t => by cases t <;> rfl
    rw [Spec.subst, this]; rfl
  | cons kv ps ih =>
    obtain ⟨h1, h2, h3⟩ := paramsOK_cons hp
    rw [List.foldl_cons]
    rw [replaceAll_render _ _ _ hc h1, ih _ (clean_flatMap_substTok _ _ _ hc h2) h3, Spec.subst, List.flatMap_assoc]
    exact congrArg ts.flatMap (funext (substTok_substTokSpec kv.1 kv.2 ps))

/-! lookup is independent of the iteration order when keys are distinct (a Go map) -/

theorem lookupKey_iff_mem (n : Str) (v : Val) (ps : List (Str × Val)) (hnd : (ps.map (·.1)).Nodup) :
    lookupKey n ps = some v ↔ (n, v) ∈ ps := by
  induction ps with
  | nil => simp [lookupKey]
  | cons kv ps ih =>
    obtain ⟨k, w⟩ := kv
    obtain ⟨hk, hnd⟩ := List.nodup_cons.1 hnd
    by_cases e : k = n
    · subst e
      have : (k, v) ∉ ps := fun h => hk (List.mem_map_of_mem (f := (·.1)) h)
      simp [lookupKey, this, eq_comm]
    · simp [lookupKey, e, Ne.symm e, ih hnd]

theorem lookupKey_perm (n : Str) (ps ps' : List (Str × Val)) (hperm : ps'.Perm ps)
    (hnd : (ps.map (·.1)).Nodup) : lookupKey n ps' = lookupKey n ps := by
  apply Option.ext
  intro v
  rw [lookupKey_iff_mem n v ps' ((hperm.map _).nodup_iff.mpr hnd), lookupKey_iff_mem n v ps hnd]
  exact hperm.mem_iff

theorem subst_perm (ts : List Tok) (ps ps' : List (Str × Val)) (hperm : ps'.Perm ps)
    (hnd : (ps.map (·.1)).Nodup) : Spec.subst ts ps' = Spec.subst ts ps := by
  unfold Spec.subst
  congr 1
  funext t
  cases t with
  | lit c => rfl
  | hole n => simp [substTokSpec, lookupKey_perm n ps ps' hperm hnd]

/-- stated for both tokenizer states: outside a placeholder, and inside one whose name so far is `n` -/
theorem tokenizeAux_sound (s : Str) :
    (∀ ts, tokenizeAux none s = some ts → render ts = s ∧ Clean ts) ∧
    (∀ n ts, '{' ∉ n → '}' ∉ n → tokenizeAux (some n) s = some ts →
        render ts = '{' :: (n ++ s) ∧ Clean ts) := by
  induction s with
  | nil => exact ⟨fun ts h => by cases h; exact ⟨rfl, nofun⟩, fun n ts _ _ h => by cases h⟩
  | cons c s ih =>
    refine ⟨fun ts h => ?_, fun n ts hn1 hn2 h => ?_⟩
    · by_cases hc : c = '{'
      · simp only [tokenizeAux, hc, if_true] at h
        exact hc ▸ ih.2 [] ts nofun nofun h
      · simp only [tokenizeAux, hc, if_false, Option.map_eq_some_iff] at h
        obtain ⟨ts', h1, rfl⟩ := h
        obtain ⟨hr, hcl⟩ := ih.1 ts' h1
        exact ⟨by rw [render_cons, hr]; rfl, clean_cons.2 ⟨by simpa [Tok.clean] using hc, hcl⟩⟩
    · by_cases hc : c = '}'
      · simp only [tokenizeAux, hc, if_true, Option.map_eq_some_iff] at h
        obtain ⟨ts', h1, rfl⟩ := h
        obtain ⟨hr, hcl⟩ := ih.1 ts' h1
        exact ⟨by simp [render_cons, renderTok, placeholder, hr, hc], clean_cons.2 ⟨by simp [Tok.clean, hn1, hn2], hcl⟩⟩
      · by_cases hc2 : c = '{'
        · simp [tokenizeAux, hc2] at h
        · simp only [tokenizeAux, hc, hc2, if_false] at h
          have := ih.2 (n ++ [c]) ts (by simp [hn1, Ne.symm hc2]) (by simp [hn2, Ne.symm hc]) h
          simpa using this

theorem tokenize_sound {s : Str} {ts : List Tok} (h : tokenize s = some ts) :
    render ts = s ∧ Clean ts := (tokenizeAux_sound s).1 ts h

theorem tokenizeAux_name (acc n rest : Str) (h1 : '{' ∉ n) (h2 : '}' ∉ n) :
    tokenizeAux (some acc) (n ++ '}' :: rest) = (tokenizeAux none rest).map (Tok.hole (acc ++ n) :: ·) := by
  induction n generalizing acc with
  | nil => simp [tokenizeAux]
  | cons c n ih =>
    have hc1 : c ≠ '{' := fun e => h1 (e ▸ .head _)
    have hc2 : c ≠ '}' := fun e => h2 (e ▸ .head _)
    simp only [List.cons_append, tokenizeAux, hc1, hc2, if_false]
    rw [ih (acc ++ [c]) (fun h => h1 (.tail _ h)) fun h => h2 (.tail _ h)]
    simp

theorem tokenize_complete (ts : List Tok) (hc : Clean ts) : tokenize (render ts) = some ts := by
  unfold tokenize
  induction ts with
  | nil => rfl
  | cons t ts ih =>
    obtain ⟨ht, hts⟩ := clean_cons.1 hc
    rw [render_cons]
    cases t with
    | lit c =>
      have hne : c ≠ '{' := by simpa [Tok.clean] using ht
      simp [renderTok, tokenizeAux, hne, ih hts]
    | hole n =>
      simp only [Tok.clean, Bool.and_eq_true] at ht
      have := tokenizeAux_name [] n (render ts) (not_contains ht.1) (not_contains ht.2)
      simp only [renderTok, placeholder, List.cons_append, List.append_assoc, List.nil_append, tokenizeAux, if_true]
      rw [this, ih hts]
      simp

end FpgoVerif.C17
