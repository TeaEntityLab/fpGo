import FpgoVerif.Proofs.C04Mut
import FpgoVerif.Proofs.C19Sort
/-! C04 — what the results of Stream and Set operations are compared with (`specS1`, `argContent`, `argMap`), and what
    the association-list functions of the Set operations do to a lookup.  `Spec.sortBy` is C19's `sortBy`. -/
namespace FpgoVerif.C04
open World

variable {w : World}

theorem foldl_congr_mem {α β} (f g : β → α → β) (l : List α) (h : ∀ b, ∀ a ∈ l, f b a = g b a) (b : β) :
    l.foldl f b = l.foldl g b := by
  induction l generalizing b with
  | nil => rfl
  | cons a t ih =>
    rw [List.foldl_cons, List.foldl_cons, h b a (List.mem_cons_self ..)]
    exact ih (fun b a ha => h b a (List.mem_cons_of_mem _ ha)) _

theorem filterIdxFrom_noidx (q : Int → Bool) (l : List Int) : ∀ i, Spec.filterIdxFrom (fun x _ => q x) i l = l.filter q := by
  induction l with
  | nil => intro i; rfl
  | cons a t ih =>
    intro i
    simp only [Spec.filterIdxFrom, List.filter_cons, ih]

theorem filter_const_true {α} (l : List α) : l.filter (fun _ => true) = l := List.filter_eq_self.mpr fun _ _ => rfl

theorem minus_nil (l : List Int) : Spec.minus l [] = l := filter_const_true l

theorem len_zero_iff (hw : Wf w) (q : Nat) : (w.strHdr q).len = 0 ↔ w.strContent q = [] := by
  rw [← strContent_length hw q]
  exact List.length_eq_zero_iff

/-- a `nil` stream argument counts as empty -/
def argContent (w : World) : Option Nat → List Int
  | none => []
  | some q => w.strContent q

def specS1 (iface : Bool) : S1 → List Int → List Int
  | .map f, l => Spec.mapIdx (Spec.mapFn f) l
  | .filter k, l => Spec.filterIdx (Spec.predFn k) l
  | .reject k, l => Spec.rejectIdx (Spec.predFn k) l
  | .notnil, l => Spec.notNil iface l
  | .notnilp, l => Spec.notNilPtr l
  | .distinct, l => Spec.distinct l
  | .clone, l => l
  | .reverse, l => l.reverse
  | .sort c, l => Spec.sortBy (Spec.lessFn c) l
  | .sortidx c, l => Spec.sortBy (Spec.lessFn c) l
  | .rmitem vs, l => Spec.minus l vs
  | .append vs, l => l ++ vs
  | .remove i, l => Spec.removeAt l i

theorem specSortBy_eq_c19 (less : Int → Int → Bool) (l : List Int) : Spec.sortBy less l = C19.sortBy less l := rfl

theorem strictWeak_of_key (f : Int → Int) : C19.StrictWeak (fun a b => decide (f a < f b)) := by
  refine ⟨fun a => by simp, fun a b c h1 h2 => ?_, fun a b c h1 => ?_⟩
  · simp only [decide_eq_true_eq] at *; omega
  · simp only [decide_eq_true_eq] at *; omega

namespace Spec
variable {β : Type}

theorem lookup_insert (k k' : Int) (v : β) (m : List (Int × β)) :
    lookup k (insert k' v m) = if k' = k then some v else lookup k m := by
  induction m with
  | nil => rfl
  | cons a t ih =>
    obtain ⟨ka, va⟩ := a
    by_cases h : ka = k' <;> by_cases h2 : k' = k <;> simp_all [insert, lookup]

theorem lookup_append (k : Int) (a b : List (Int × β)) :
    lookup k (a ++ b) = match lookup k a with | some v => some v | none => lookup k b := by
  induction a with
  | nil => rfl
  | cons x t ih =>
    obtain ⟨kx, vx⟩ := x
    simp only [List.cons_append, lookup]
    split
    · rfl
    · exact ih

/-- `l.reverse`: the last assignment to a key wins -/
theorem lookup_foldl_insert (k : Int) (l : List (Int × β)) :
    ∀ acc : List (Int × β), lookup k (l.foldl (fun r kv => insert kv.1 kv.2 r) acc)
      = match lookup k l.reverse with | some v => some v | none => lookup k acc := by
  induction l with
  | nil => intro acc; rfl
  | cons a t ih =>
    intro acc
    simp only [List.foldl_cons, List.reverse_cons]
    rw [ih, lookup_append, lookup_insert]
    cases lookup k t.reverse with
    | some v => rfl
    | none => simp only [lookup]; split <;> rfl

/-- `Merge(m₁, m₂)` is what `Union` stores: the argument wins on common keys -/
theorem lookup_merge (k : Int) (m₁ m₂ : List (Int × β)) :
    lookup k (merge m₁ m₂) = match lookup k m₂.reverse with | some v => some v | none => lookup k m₁ :=
  lookup_foldl_insert k m₂ m₁

theorem lookup_insertIfAbsent (k k' : Int) (v : β) (m : List (Int × β)) :
    lookup k (insertIfAbsent k' v m) = match lookup k m with
      | some x => some x
      | none => if k' = k then some v else none := by
  unfold insertIfAbsent hasKey
  split
  · rename_i hk'
    cases hk : lookup k m with
    | some y => rfl
    | none =>
      have : k' ≠ k := fun e => by rw [e, hk] at hk'; cases hk'
      simp only [this, if_false]
  · rw [lookup_insert]
    split
    · rename_i hk' e; subst e; cases h : lookup k' m <;> simp_all
    · cases lookup k m <;> rfl

/-- `Add(items...)` -/
theorem lookup_add (k : Int) (zero : β) (items : List Int) :
    ∀ m : List (Int × β), lookup k (items.foldl (fun m k => insertIfAbsent k zero m) m) = match lookup k m with
      | some x => some x
      | none => if items.contains k then some zero else none := by
  induction items with
  | nil => intro m; cases h : lookup k m <;> simp [h]
  | cons a t ih =>
    intro m
    rw [List.foldl_cons, ih, lookup_insertIfAbsent]
    cases lookup k m with
    | some x => rfl
    | none =>
      by_cases h : a = k
      · subst h; simp
      · have hk : ¬ k = a := fun e => h e.symm
        simp [h, hk]

/-- filters that look at the key only (`RemoveKeys`, `Intersection`, `Minus`) -/
theorem lookup_filter_key (k : Int) (p : Int → Bool) (m : List (Int × β)) :
    lookup k (m.filter (fun kv => p kv.1)) = if p k then lookup k m else none := by
  induction m with
  | nil => simp [lookup]
  | cons a t ih =>
    obtain ⟨ka, va⟩ := a
    by_cases hp : p ka <;> by_cases h : ka = k <;> simp_all [lookup]

theorem lookup_removeKeys (k : Int) (m : List (Int × β)) (ks : List Int) :
    lookup k (removeKeys m ks) = if ks.contains k then none else lookup k m := by
  rw [removeKeys, lookup_filter_key k (fun x => !ks.contains x)]
  cases ks.contains k <;> rfl

theorem lookup_interByKey (k : Int) (m₁ m₂ : List (Int × β)) :
    lookup k (interByKey m₁ m₂) = if hasKey k m₂ then lookup k m₁ else none :=
  lookup_filter_key k (fun x => hasKey x m₂) m₁

theorem lookup_minusByKey (k : Int) (m₁ m₂ : List (Int × β)) :
    lookup k (minusByKey m₁ m₂) = if hasKey k m₂ then none else lookup k m₁ := by
  rw [minusByKey, lookup_filter_key k (fun x => !hasKey x m₂)]
  cases hasKey k m₂ <;> rfl

theorem lookup_mapVals (k : Int) (f : β → β) (m : List (Int × β)) :
    lookup k (mapVals f m) = (lookup k m).map f :=
  lookup_listMap_val f k m

theorem insert_of_lookup_none (k : Int) (v : β) (m : List (Int × β)) (h : lookup k m = none) :
    insert k v m = m ++ [(k, v)] := by
  induction m with
  | nil => rfl
  | cons a t ih =>
    obtain ⟨ka, va⟩ := a
    simp only [lookup] at h
    split at h
    · cases h
    · simp only [insert, if_neg ‹_›, ih h, List.cons_append]

theorem foldl_insert_fresh (f : Int → Int) (l : List (Int × β)) :
    ∀ acc : List (Int × β), (∀ kv ∈ l, lookup (f kv.1) acc = none) → (l.map (fun kv => f kv.1)).Nodup →
      l.foldl (fun r kv => insert (f kv.1) kv.2 r) acc = acc ++ l.map (fun kv => (f kv.1, kv.2)) := by
  induction l with
  | nil => intro acc _ _; simp
  | cons a t ih =>
    intro acc hacc hnd
    simp only [List.map_cons, List.nodup_cons] at hnd
    simp only [List.foldl_cons, List.map_cons]
    rw [insert_of_lookup_none _ _ _ (hacc a (List.mem_cons_self ..)), ih _ ?_ hnd.2, List.append_assoc]
    · rfl
    · intro kv hkv
      rw [lookup_append, hacc kv (List.mem_cons_of_mem _ hkv)]
      have : f a.1 ≠ f kv.1 := fun e => hnd.1 (e ▸ List.mem_map.mpr ⟨kv, hkv, rfl⟩)
      simp [lookup, this]

/-- `MapKey(f)`; the hypothesis holds e.g. for `f` injective, the keys of a map being distinct -/
theorem mapKeys_of_nodup (f : Int → Int) (m : List (Int × β)) (h : (m.map (fun kv => f kv.1)).Nodup) :
    mapKeys f m = m.map (fun kv => (f kv.1, kv.2)) :=
  foldl_insert_fresh f m [] (fun _ _ => rfl) h

theorem keyFn_injective (k : Nat) : Function.Injective (keyFn k) := by
  intro a b h
  match k with
  | 0 | 1 | _ + 2 => simp only [keyFn] at h; omega

end Spec

theorem merge_nil {β} (m : List (Int × β)) : Spec.merge m [] = m := rfl

/-- a `nil` Set argument has no entries -/
def argMap (w : World) : Option Nat → AMap
  | none => []
  | some q => w.setMap q

end FpgoVerif.C04
