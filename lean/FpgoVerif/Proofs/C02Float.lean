import FpgoVerif.Proofs.C02Int
/-! C02 — float sources: the float → integer cells (guard, `math.Round`, cast; `ToUintptr` goes through `ToUint64`
    and narrows) and the float → float cells (float64 → float32 under a guard that rejects exactly the finite values
    of magnitude above MaxFloat32 and lets NaN / ±Inf through). -/
namespace FpgoVerif.C02

def mkF (is32 : Bool) (x : FVal) : Val := if is32 then .f32 x else .f64 x

def fltSrc (is32 : Bool) : Ty := if is32 then .float32 else .float64
def fltP (is32 : Bool) : Nat := if is32 then 24 else 53

theorem specOK_mkF (tgt : Ty) (is32 : Bool) (x : FVal) (r : Res) :
    specOK tgt (.ty (fltSrc is32)) (mkF is32 x) r = specNum tgt (mkF is32 x) r := by
  cases is32 <;> rfl

theorem exactInt_mkF (is32 : Bool) (s : Bool) (m k : Nat) :
    exactInt (mkF is32 (.fin s m k)) = some (roundHalfAway s m k) := by
  cases is32 <;> rfl

theorem fitsInt_mkF (lo hi : Int) (is32 : Bool) (x : FVal) :
    fitsInt lo hi (mkF is32 x) = match x with
      | .fin s m k => decide (lo * 2 ^ k ≤ sgn s m ∧ sgn s m ≤ hi * 2 ^ k)
      | _ => false := by
  cases is32 <;> cases x <;> rfl

theorem fitsInt_mono {lo hi lo' hi' : Int} {x : Val} (h1 : lo' ≤ lo) (h2 : hi ≤ hi') (hf : fitsInt lo hi x = true) :
    fitsInt lo' hi' x = true := by
  cases x with
  | i | b => have := of_decide_eq_true hf; exact decide_eq_true (by omega)
  | f32 y | f64 y =>
    cases y with
    | fin s m k =>
      have := of_decide_eq_true hf
      have hp := Int.le_of_lt (pow2_pos k)
      exact decide_eq_true ⟨Int.le_trans (Int.mul_le_mul_of_nonneg_right h1 hp) this.1,
        Int.le_trans this.2 (Int.mul_le_mul_of_nonneg_right h2 hp)⟩
    | _ => cases hf
  | _ => cases hf

def atomFmt (is32 : Bool) : E → Option Fmt
  | .v => some (if is32 then f32 else f64)
  | .cast .float64 .v => some f64
  | _ => none

/-- the integer an integer constant becomes when Go converts it to format `f` (`none` if not an integer) -/
def litInt (f : Fmt) (c : Int) : Option Int :=
  match ofInt f c with
  | .fin s m 0 => some (sgn s m)
  | _ => none

/-- normal form of a float guard: an inclusive lower bound, an upper bound (strict or not) -/
structure FB where
  lb : Option Int
  ub : Option (Int × Bool)
deriving DecidableEq, Repr

def fltBounds (is32 : Bool) : C → Option FB
  | .ge a (.lit c) => match atomFmt is32 a with
    | some f => match litInt f c with
      | some L => some ⟨some L, none⟩
      | none => none
    | none => none
  | .le a (.lit c) => match atomFmt is32 a with
    | some f => match litInt f c with
      | some U => some ⟨none, some (U, false)⟩
      | none => none
    | none => none
  | .lt a (.lit c) => match atomFmt is32 a with
    | some f => match litInt f c with
      | some U => some ⟨none, some (U, true)⟩
      | none => none
    | none => none
  | .and a b => match fltBounds is32 a, fltBounds is32 b with
    | some ⟨some L, none⟩, some ⟨none, some u⟩ => some ⟨some L, some u⟩
    | _, _ => none
  | _ => none

def passL (lb : Option Int) (s : Bool) (m k : Nat) : Bool :=
  match lb with
  | none => true
  | some L => decide (L * 2 ^ k ≤ sgn s m)

def passU (ub : Option (Int × Bool)) (s : Bool) (m k : Nat) : Bool :=
  match ub with
  | none => true
  | some (U, false) => decide (sgn s m ≤ U * 2 ^ k)
  | some (U, true) => decide (sgn s m < U * 2 ^ k)

/-- a comparison with NaN is false, `-Inf` is below and `+Inf` above every bound -/
def FB.pass (b : FB) : FVal → Bool
  | .fin s m k => passL b.lb s m k && passU b.ub s m k
  | .nan => false
  | .inf t => if t then b.lb.isNone else b.ub.isNone

theorem atom_eval {is32 : Bool} {a : E} {f : Fmt} (x : FVal) (h : atomFmt is32 a = some f) :
    (evalE (mkF is32 x) a = .f32 x ∧ f = f32) ∨ (evalE (mkF is32 x) a = .f64 x ∧ f = f64) := by
  unfold atomFmt at h
  split at h
  · cases is32 <;> cases h
    · exact .inr ⟨rfl, rfl⟩
    · exact .inl ⟨rfl, rfl⟩
  · cases h
    cases is32 <;> exact .inr ⟨rfl, rfl⟩
  · cases h

theorem atom_sound {is32 : Bool} {a : E} {f : Fmt} {c L : Int} (hf : atomFmt is32 a = some f)
    (hl : litInt f c = some L) (x : FVal) :
    evalC (mkF is32 x) (.ge a (.lit c)) = some (FB.pass ⟨some L, none⟩ x) ∧
    evalC (mkF is32 x) (.le a (.lit c)) = some (FB.pass ⟨none, some (L, false)⟩ x) ∧
    evalC (mkF is32 x) (.lt a (.lit c)) = some (FB.pass ⟨none, some (L, true)⟩ x) := by
  unfold litInt at hl
  split at hl
  case h_2 => cases hl
  case h_1 cs cm hc =>
  cases hl
  rcases atom_eval x hf with ⟨he, rfl⟩ | ⟨he, rfl⟩ <;>
    cases x <;> simp [evalC, he, evalE, cmpV, hc, FVal.le, FVal.lt, FB.pass, passL, passU]

theorem FB.pass_both (L : Int) (u : Int × Bool) (x : FVal) :
    FB.pass ⟨some L, some u⟩ x = (FB.pass ⟨some L, none⟩ x && FB.pass ⟨none, some u⟩ x) := by
  cases x with
  | fin s m k => simp only [FB.pass, passL, passU, Bool.and_true, Bool.true_and]
  | nan => rfl
  | inf t => cases t <;> rfl

theorem fltBounds_sound {is32 : Bool} {g : C} {b : FB} (h : fltBounds is32 g = some b) (x : FVal) :
    evalC (mkF is32 x) g = some (b.pass x) := by
  -- one case per branch of `fltBounds`, in its order: 1, 4, 7 an accepted `>=`, `<=`, `<` atom (each followed by its two
  -- rejections: constant not an integer, operand not the variable); 10 `lower && upper` (11: any other conjunction);
  -- 12 any other guard.  The cases not named return `none`.
  fun_induction fltBounds is32 g generalizing b
  case case1 a c f hf L hl => cases h; exact (atom_sound hf hl x).1
  case case4 a c f hf U hl => cases h; exact (atom_sound hf hl x).2.1
  case case7 a c f hf U hl => cases h; exact (atom_sound hf hl x).2.2
  case case10 g1 g2 L u h2 h1 ih1 ih2 =>
    cases h
    simp only [evalC, ih1 h1, ih2 h2, FB.pass_both]
    cases FB.pass ⟨some L, none⟩ x <;> rfl
  all_goals cases h

def fltBodyOK (tbl : List Case) (tgt : Ty) (is32 : Bool) (body : Body) : Bool :=
  match tgt.range, tgt.must with
  | some (lo, hi), some (mlo, mhi) =>
    match body with
    | .bind (.self m) (some g) ⟨.cast t (.round a), .fromCall⟩ (some ⟨_, .overflow⟩) =>
      m == fltSrc is32 && t == tgt && selfIdent tbl (fltSrc is32) &&
      ((a == E.v && !is32) || a == E.cast .float64 .v) &&
      (match fltBounds is32 g with
       | some ⟨some L, some (U, strict)⟩ =>
         -- (a)/(c): whatever passes the guard rounds into the target range
         decide (lo ≤ L) &&
         (if strict then decide (U - 1 ≤ hi) && decide ((2 : Int) ^ fltP is32 ≤ U) else decide (U ≤ hi)) &&
         -- (b): whatever fits passes the guard
         decide (L ≤ mlo) && (if strict then decide (mhi < U) else decide (mhi ≤ U))
       | _ => false)
    | _ => false
  | _, _ => false

theorem fltGuard_sound {p : Nat} {s : Bool} {m k : Nat} {L U lo hi mlo mhi : Int} {strict : Bool}
    (hw : (FVal.fin s m k).wf p) (hloL : lo ≤ L)
    (hup : (if strict then decide (U - 1 ≤ hi) && decide ((2 : Int) ^ p ≤ U) else decide (U ≤ hi)) = true)
    (hLm : L ≤ mlo) (hmU : (if strict then decide (mhi < U) else decide (mhi ≤ U)) = true) :
    (FB.pass ⟨some L, some (U, strict)⟩ (.fin s m k) = true →
      lo ≤ roundHalfAway s m k ∧ roundHalfAway s m k ≤ hi) ∧
    (mlo * 2 ^ k ≤ sgn s m ∧ sgn s m ≤ mhi * 2 ^ k → FB.pass ⟨some L, some (U, strict)⟩ (.fin s m k) = true) := by
  have hp := pow2_pos k
  have hLk : L * 2 ^ k ≤ mlo * 2 ^ k := Int.mul_le_mul_of_nonneg_right hLm (Int.le_of_lt hp)
  have hge := rha_ge s m k L
  cases strict <;>
    simp only [FB.pass, passL, passU, Bool.false_eq_true, if_false, if_true, Bool.and_eq_true,
      decide_eq_true_eq] at hup hmU ⊢
  · have hUk : mhi * 2 ^ k ≤ U * 2 ^ k := Int.mul_le_mul_of_nonneg_right hmU (Int.le_of_lt hp)
    have := rha_le s m k U
    omega
  · have hUk : mhi * 2 ^ k < U * 2 ^ k := Int.mul_lt_mul_of_pos_right hmU hp
    have := rha_lt p s m k U hw hup.2
    omega

theorem round_arg_eval (is32 : Bool) (a : E) (x : FVal)
    (ha : ((a == E.v && !is32) || a == E.cast .float64 .v) = true) : evalE (mkF is32 x) a = .f64 x := by
  simp only [Bool.or_eq_true, Bool.and_eq_true, beq_iff_eq, Bool.not_eq_true'] at ha
  rcases ha with ⟨rfl, rfl⟩ | rfl
  · rfl
  · cases is32 <;> rfl

theorem cast_round_fin {t : Ty} {lo hi : Int} (hr : t.range = some (lo, hi)) (s : Bool) (m k : Nat)
    (hz1 : lo ≤ roundHalfAway s m k) (hz2 : roundHalfAway s m k ≤ hi) :
    castTo t (.f64 (FVal.round (.fin s m k))) = .i (roundHalfAway s m k) := by
  have e : truncInt s (rhaNat m k) 0 = roundHalfAway s m k := by simp [truncInt, roundHalfAway]
  simp only [FVal.round, castTo, hr, e, hz1, hz2, and_self, if_true]

theorem fltBodyOK_sound (sc : Strconv) (tbl : List Case) (n : Nat) (tgt : Ty) (is32 : Bool)
    (hk : fltBodyOK tbl tgt is32 (lookup tbl tgt (.ty (fltSrc is32))) = true)
    (x : FVal) (hw : x.wf (fltP is32)) :
    specNum tgt (mkF is32 x) (conv sc tbl (n + 2) tgt (.ty (fltSrc is32)) (mkF is32 x)) = true := by
  unfold fltBodyOK at hk
  split at hk
  case h_2 => cases hk
  case h_1 lo hi mlo mhi hr hm =>
  split at hk
  case h_2 => cases hk
  case h_1 m g t a fe hb =>
  simp only [Bool.and_eq_true, beq_iff_eq] at hk
  obtain ⟨⟨⟨⟨rfl, rfl⟩, hsi⟩, ha⟩, hchk⟩ := hk
  split at hchk
  case h_2 => cases hchk
  case h_1 L U strict hg =>
  simp only [Bool.and_eq_true, decide_eq_true_eq] at hchk
  obtain ⟨⟨⟨hloL, hup⟩, hLm⟩, hmU⟩ := hchk
  rw [conv_bind_self hb hsi, afterCall_guard (fltBounds_sound hg x)]
  cases x with
  | fin s m k =>
    obtain ⟨hin, hmust⟩ := fltGuard_sound hw hloL hup hLm hmU
    cases hp : FB.pass ⟨some L, some (U, strict)⟩ (.fin s m k)
    · refine specNum_int_err hr hm ErrK.noConfusion fun hf => ?_
      rw [fitsInt_mkF] at hf
      exact Bool.false_ne_true (hp ▸ hmust (of_decide_eq_true hf))
    · obtain ⟨hz1, hz2⟩ := hin hp
      rw [if_pos rfl]
      simp only [evalR, evalE, round_arg_eval is32 a _ ha, cast_round_fin hr s m k hz1 hz2, errOf]
      exact specNum_int_ok hr hm (exactInt_mkF ..) hz1 hz2
  | nan => exact specNum_int_err hr hm ErrK.noConfusion fun hf => by rw [fitsInt_mkF] at hf; cases hf
  | inf s =>
    -- a two-sided guard rejects both infinities
    cases s <;> exact specNum_int_err hr hm ErrK.noConfusion fun hf => by rw [fitsInt_mkF] at hf; cases hf

/-! ### a float clause that goes through another integer conversion and then narrows its result with an integer
    guard (`ToUintptr` ← float via `ToUint64`) -/

def compBodyOK (tbl : List Case) (tgt : Ty) (is32 : Bool) (body : Body) : Bool :=
  match tgt.range, tgt.must with
  | some (lo, hi), some (mlo, mhi) =>
    match body with
    | .bind (.self mi) (some g) ⟨.cast t .v, .fromCall⟩ (some ⟨_, .overflow⟩) =>
      t == tgt && fltBodyOK tbl mi is32 (lookup tbl mi (.ty (fltSrc is32))) &&
      (match mi.range, mi.must, intBounds g with
       | some (ilo, ihi), some (imlo, imhi), some (l, h) =>
         ivOK ilo ihi l h lo hi mlo mhi && decide (imlo ≤ mlo ∧ mhi ≤ imhi)
       | _, _, _ => false)
    | _ => false
  | _, _ => false

/-- `hsub`: what has to convert to `tgt` had to convert to `mi` -/
theorem specNum_via {tgt mi : Ty} {x : Val} {r0 : Res} {lo hi mlo mhi ilo ihi imlo imhi : Int} {g : C}
    {l h : Option Int} (hr : tgt.range = some (lo, hi)) (hm : tgt.must = some (mlo, mhi))
    (hir : mi.range = some (ilo, ihi)) (him : mi.must = some (imlo, imhi)) (hg : intBounds g = some (l, h))
    (hiv : ivOK ilo ihi l h lo hi mlo mhi = true) (hsub : imlo ≤ mlo ∧ mhi ≤ imhi)
    (hinner : specNum mi x r0 = true) (fe : E) :
    specNum tgt x (afterCall r0 (some g) ⟨.cast tgt .v, .fromCall⟩ (some ⟨fe, .overflow⟩)) = true := by
  obtain ⟨ha, hb⟩ := (specNum_int_iff hir him x r0).mp hinner
  by_cases he : r0.err = .ok
  · obtain ⟨z, hx, hv, hz1, hz2⟩ := ha he
    obtain ⟨v0, e0⟩ := r0
    cases hv
    cases he
    exact specNum_guardedCast hr hm hg hiv hx hz1 hz2 fe
  · exact specNum_int_err hr hm (afterCall_err he _ _ _) fun hf => he (hb (fitsInt_mono hsub.1 hsub.2 hf))

theorem compBodyOK_sound (sc : Strconv) (tbl : List Case) (n : Nat) (tgt : Ty) (is32 : Bool)
    (hk : compBodyOK tbl tgt is32 (lookup tbl tgt (.ty (fltSrc is32))) = true)
    (x : FVal) (hw : x.wf (fltP is32)) :
    specNum tgt (mkF is32 x) (conv sc tbl (n + 3) tgt (.ty (fltSrc is32)) (mkF is32 x)) = true := by
  unfold compBodyOK at hk
  split at hk
  case h_2 => cases hk
  case h_1 lo hi mlo mhi hr hm =>
  split at hk
  case h_2 => cases hk
  case h_1 mi g t fe hb =>
  simp only [Bool.and_eq_true, beq_iff_eq] at hk
  obtain ⟨⟨rfl, hin⟩, hchk⟩ := hk
  split at hchk
  case h_2 => cases hchk
  case h_1 ilo ihi imlo imhi l h hir him hg =>
  simp only [Bool.and_eq_true, decide_eq_true_eq] at hchk
  rw [conv_bind hb]
  exact specNum_via hr hm hir him hg hchk.1 hchk.2 (fltBodyOK_sound sc tbl n mi is32 hin x hw) fe

/-- the guard of the narrowing clause: `(lo <= v && v <= hi) || math.IsInf(v, 0) || math.IsNaN(v)` -/
def narrowGuardOK (g : C) : Bool :=
  match g with
  | .or (.or gi (.isInf .v)) (.isNaN .v) =>
    fltBounds false gi == some ⟨some (-(f32.maxFinite : Int)), some ((f32.maxFinite : Int), false)⟩
  | _ => false

def ffBodyOK (tbl : List Case) (tgt src : Ty) (body : Body) : Bool :=
  match tgt, src with
  | .float64, .float64 => body == .ident
  | .float32, .float32 => body == .ident
  | .float64, .float32 =>
    (match body with
     | .bind (.self .float32) none ⟨.cast .float64 .v, .fromCall⟩ _ => selfIdent tbl .float32
     | _ => false)
  | .float32, .float64 =>
    (match body with
     | .bind (.self .float64) (some g) ⟨.cast .float32 .v, .fromCall⟩ (some ⟨_, .overflow⟩) =>
       selfIdent tbl .float64 && narrowGuardOK g
     | _ => false)
  | _, _ => false

theorem sgn_abs_le (s : Bool) (m B : Nat) : (-(B : Int) ≤ sgn s m ∧ sgn s m ≤ B) ↔ m ≤ B := by
  cases s <;> simp only [sgn, Bool.false_eq_true, if_false, if_true] <;> omega

theorem narrowGuard_eval (g : C) (h : narrowGuardOK g = true) (v : FVal) :
    evalC (.f64 v) g = some (match v with
      | .fin _ m k => decide (m ≤ f32.maxFinite * 2 ^ k)
      | _ => true) := by
  unfold narrowGuardOK at h
  split at h
  case h_2 => cases h
  case h_1 gi =>
  have hgi : evalC (.f64 v) gi = some (FB.pass _ v) := fltBounds_sound (is32 := false) (eq_of_beq h) v
  simp only [evalC, evalE, hgi]
  cases v with
  | nan => rfl
  | inf s => cases s <;> rfl
  | fin s m k =>
    have hpass : FB.pass ⟨some (-(f32.maxFinite : Int)), some ((f32.maxFinite : Int), false)⟩ (.fin s m k) =
        decide (m ≤ f32.maxFinite * 2 ^ k) := by
      have := sgn_abs_le s m (f32.maxFinite * 2 ^ k)
      rw [Int.natCast_mul, natCast_pow2, ← Int.neg_mul] at this
      simp only [FB.pass, passL, passU, ← Bool.decide_and, this]
    simp only [hpass]
    cases decide (m ≤ f32.maxFinite * 2 ^ k) <;> rfl

theorem spec_narrow_err (v : FVal) (x : Val) (hnf : fitsFloat f32 (.f64 v) = false) :
    specNum .float32 (.f64 v) ⟨x, .overflow⟩ = true := by
  simp only [specNum, Ty.range, Ty.must, Ty.fmt, hnf]
  simp

theorem ffBodyOK_sound (sc : Strconv) (tbl : List Case) (n : Nat) (tgt : Ty) (is32 : Bool) (v : FVal)
    (hk : ffBodyOK tbl tgt (fltSrc is32) (lookup tbl tgt (.ty (fltSrc is32))) = true) :
    specNum tgt (mkF is32 v) (conv sc tbl (n + 2) tgt (.ty (fltSrc is32)) (mkF is32 v)) = true := by
  unfold ffBodyOK at hk
  split at hk
  case h_1 hs =>
    cases is32 <;> cases hs
    rw [conv_ident (eq_of_beq hk)]
    exact specNum_float_ok rfl rfl rfl rfl id
  case h_2 hs =>
    cases is32 <;> cases hs
    rw [conv_ident (eq_of_beq hk)]
    exact specNum_float_ok rfl rfl rfl rfl id
  case h_3 hs =>
    cases is32 <;> cases hs
    split at hk
    case h_2 => cases hk
    case h_1 f hb =>
    rw [conv_bind_self hb hk]
    exact specNum_float_ok rfl rfl rfl rfl id
  case h_4 hs =>
    cases is32 <;> cases hs
    split at hk
    case h_2 => cases hk
    case h_1 g fe hb =>
    simp only [Bool.and_eq_true] at hk
    rw [conv_bind_self hb hk.1, afterCall_guard (narrowGuard_eval g hk.2 v)]
    cases v with
    | nan | inf _ => exact specNum_float_ok rfl rfl rfl rfl id
    | fin s m k =>
      dsimp only
      by_cases hfit : m ≤ f32.maxFinite * 2 ^ k
      · rw [if_pos (decide_eq_true hfit)]
        exact specNum_float_ok rfl rfl rfl rfl fun _ => roundRat_isFin f32 (.inl rfl) s m (2 ^ k) (Nat.two_pow_pos k) hfit
      · rw [if_neg (mt of_decide_eq_true hfit)]
        exact spec_narrow_err _ _ (decide_eq_false hfit)
  case h_5 => cases hk

end FpgoVerif.C02
