import FpgoVerif.Proofs.C06Rep
/-! Every operation preserves the representation invariant.

    An insertion is `generateNode` followed by linking the node to one end (`link_rep`); a removal
    unlinks the node at one end and hands it to `recycleNode` (`remove_rep`).  What differs between the
    ends, and between a queue that becomes empty / non-empty and one that does not, is only how the two
    chains through `next` and `prev` are re-established. -/
namespace FpgoVerif.C06
variable {q : Q} {vs : List Int} {chain pool : List Addr}

theorem recycleNode_rep {n : Addr} (h : Rep q vs chain pool) (hn : n ∉ chain ++ pool)
    (hlt : n < q.fresh) (hg : n ∉ q.gc) : Rep (recycleNode q n) vs chain (n :: pool) := by
  have hnc : n ∉ chain := fun hc => hn (List.mem_append_left _ hc)
  have o := (h.owns.cons hn hlt hg).perm List.perm_middle
  exact { o, h with
    hnext := h.hnext.frame n _ hnc, hprev := h.hprev.frame n _ (mt List.mem_reverse.1 hnc),
    hpool := h.hpool.push n fun hp => hn (List.mem_append_right _ hp),
    hval := (map_upd_of_not_mem _ _ _ _ hnc).trans h.hval,
    gzero := fun a ha => by simp only [recycleNode, upd_of_gc ha hg]; exact h.gzero a ha,
    hnode := by simp [recycleNode, h.hnode] }

/-- the caller says where the node goes (`chain'`) and shows the two chains through the new links -/
theorem link_rep {n : Addr} {v : Int} (h : Rep q vs chain pool) (hn : n ∉ chain ++ pool)
    (hlt : n < q.fresh) (hg : n ∉ q.gc) {chain' : List Addr} {vs' : List Int} (hp : chain'.Perm (n :: chain))
    (hval : chain'.map (upd q.val n (some v)) = vs'.map some) {first' last' : Option Addr}
    {next' prev' : Addr → Option Addr} (hnext : Seg next' first' chain') (hprev : Seg prev' last' chain'.reverse)
    (hpool : Seg next' q.poolFirst pool) (hz : ∀ a ∈ q.gc, next' a = q.next a ∧ prev' a = q.prev a) :
    Rep { q with val := upd q.val n (some v), count := q.count + 1, first := first', last := last',
                 next := next', prev := prev' } vs' chain' pool := by
  have o := (h.owns.cons hn hlt hg).perm (hp.append_right pool)
  exact { o, h with
    hnext, hprev, hpool, hval, hcount := by simp [hp.length_eq, h.hcount],
    gzero := fun a ha => by simp only [(hz a ha).1, (hz a ha).2, upd_of_gc ha hg]; exact h.gzero a ha }

/-- the caller says which node leaves (`chain` is `n :: t` up to order) and shows the two chains through the
    remaining links -/
theorem remove_rep {n : Addr} {t : List Addr} {vs' : List Int} (h : Rep q vs chain pool)
    (hp : chain.Perm (n :: t)) (hval : t.map q.val = vs'.map some) {first' last' : Option Addr}
    {next' prev' : Addr → Option Addr} (hnext : Seg next' first' t) (hprev : Seg prev' last' t.reverse)
    (hpool : Seg next' q.poolFirst pool) (hz : ∀ a ∈ q.gc, next' a = q.next a ∧ prev' a = q.prev a) :
    Rep (recycleNode { q with count := q.count - 1, first := first', last := last', next := next',
                              prev := prev' } n) vs' t (n :: pool) := by
  have o : Owns q.fresh q.gc (n :: (t ++ pool)) := h.owns.perm (hp.symm.append_right pool)
  have ot := o.sublist (List.sublist_cons_self n (t ++ pool))
  refine recycleNode_rep { ot, h with
      hnext, hprev, hpool, hval, hcount := ?_,
      gzero := fun a ha => by simp only [(hz a ha).1, (hz a ha).2]; exact h.gzero a ha }
    (List.nodup_cons.1 o.nd).1 (o.lt n List.mem_cons_self) fun hm => o.gdisj n hm List.mem_cons_self
  have := h.hcount
  simp only [hp.length_eq, List.length_cons] at this ⊢
  omega

/-- Offer/Put/Push append at the tail -/
theorem offer_rep (h : Rep q vs chain pool) (v : Int) :
    ∃ chain' pool', Rep (offer q v) (vs ++ [v]) chain' pool' ∧ pool'.length = pool.length - 1 := by
  cases hg : generateNode q with
  | mk q1 n =>
  obtain ⟨pool', hr, hlen, hn, hng, hnlt, hnn, hnp, -⟩ := generateNode_spec h q1 n hg
  have hnc : n ∉ chain := fun hc => hn (List.mem_append_left _ hc)
  have hval : (chain ++ [n]).map (upd q1.val n (some v)) = (vs ++ [v]).map some := by
    rw [List.map_append, List.map_append, map_upd_of_not_mem _ _ _ _ hnc, hr.hval]; simp
  refine ⟨chain ++ [n], pool', ?_, hlen⟩
  cases hlast : q1.last with
  | none =>
    obtain rfl : chain = [] := List.getLast?_eq_none_iff.1 (hr.last_eq.symm.trans hlast)
    have hfirst : q1.first = none := hr.first_eq
    have : offer q v = { q1 with val := upd q1.val n (some v), count := q1.count + 1, first := some n,
                                 last := some n } := by
      simp [offer, hg, hfirst, hlast]
    rw [this]
    exact link_rep hr hn hnlt hng (.refl _) hval (.cons n [] (hnn ▸ .nil)) (.cons n [] (hnp ▸ .nil)) hr.hpool
      fun _ _ => ⟨rfl, rfl⟩
  | some l =>
    have hgl : chain.getLast? = some l := hr.last_eq.symm.trans hlast
    have hlc : l ∈ chain := List.mem_of_getLast? hgl
    have hfirst : q1.first.isNone = false := by rw [hr.first_eq]; cases chain <;> simp_all
    have : offer q v = { q1 with val := upd q1.val n (some v), count := q1.count + 1,
                                 next := upd q1.next l (some n), prev := upd q1.prev n (some l), last := some n } := by
      simp [offer, hg, hfirst, hlast]
    rw [this]
    have hlg : l ∉ q1.gc := fun hm => hr.gdisj l hm (List.mem_append_left _ hlc)
    exact link_rep hr hn hnlt hng (List.perm_append_singleton n chain) hval
      (hr.hnext.snoc n l hnc hnn hr.chain_nodup hgl)
      (by simpa using (hlast ▸ hr.hprev).push n (mt List.mem_reverse.1 hnc))
      (hr.hpool.frame _ _ (hr.disj hlc)) fun a ha => ⟨upd_of_gc ha hlg _ _, upd_of_gc ha hng _ _⟩

theorem unshift_rep (h : Rep q vs chain pool) (v : Int) :
    ∃ chain' pool', Rep (unshift q v) (v :: vs) chain' pool' ∧ pool'.length = pool.length - 1 := by
  cases hg : generateNode q with
  | mk q1 n =>
  obtain ⟨pool', hr, hlen, hn, hng, hnlt, hnn, hnp, -⟩ := generateNode_spec h q1 n hg
  have hnc : n ∉ chain := fun hc => hn (List.mem_append_left _ hc)
  have hnp' : n ∉ pool' := fun hc => hn (List.mem_append_right _ hc)
  have hval : (n :: chain).map (upd q1.val n (some v)) = (v :: vs).map some := by
    rw [List.map_cons, List.map_cons, map_upd_of_not_mem _ _ _ _ hnc, hr.hval]; simp
  refine ⟨n :: chain, pool', ?_, hlen⟩
  cases hfirst : q1.first with
  | none =>
    obtain rfl : chain = [] := List.head?_eq_none_iff.1 (hr.first_eq.symm.trans hfirst)
    have hlast : q1.last = none := hr.last_eq
    have : unshift q v = { q1 with val := upd q1.val n (some v), count := q1.count + 1, last := some n,
                                   first := some n, next := upd q1.next n none } := by
      simp [unshift, hg, hfirst, hlast]
    rw [this]
    exact link_rep hr hn hnlt hng (.refl _) hval (.cons n [] (by rw [upd_same]; exact .nil))
      (.cons n [] (hnp ▸ .nil)) (hr.hpool.frame _ _ hnp') fun a ha => ⟨upd_of_gc ha hng _ _, rfl⟩
  | some f =>
    have hgf : chain.head? = some f := hr.first_eq.symm.trans hfirst
    have hfc : f ∈ chain := List.mem_of_head? hgf
    have hlast : q1.last.isNone = false := by
      rw [hr.last_eq]; cases h' : chain.getLast? <;> simp_all [List.getLast?_eq_none_iff]
    have : unshift q v = { q1 with val := upd q1.val n (some v), count := q1.count + 1, first := some n,
                                   next := upd q1.next n (some f), prev := upd q1.prev f (some n) } := by
      simp [unshift, hg, hfirst, hlast]
    rw [this]
    have hfg : f ∉ q1.gc := fun hm => hr.gdisj f hm (List.mem_append_left _ hfc)
    have hprev := hr.hprev.snoc n f (mt List.mem_reverse.1 hnc) hnp
      ((List.reverse_perm _).nodup_iff.2 hr.chain_nodup) (by simpa using hgf)
    exact link_rep hr hn hnlt hng (.refl _) hval ((hfirst ▸ hr.hnext).push n hnc) (by simpa using hprev)
      (hr.hpool.frame _ _ hnp') fun a ha => ⟨upd_of_gc ha hng _ _, upd_of_gc ha hfg _ _⟩

theorem shift_empty (h : Rep q [] chain pool) : shift true q = (q, .empty) := by
  obtain rfl : chain = [] := List.map_eq_nil_iff.1 h.hval
  simp [shift, show q.first = none from h.first_eq]

/-- Poll/Take/Shift remove and return the head -/
theorem shift_rep {v} (h : Rep q (v :: vs) chain pool) :
    ∃ chain' pool', (shift true q).2 = .ok v ∧ Rep (shift true q).1 vs chain' pool' ∧
      pool'.length = pool.length + 1 := by
  obtain ⟨n, t, rfl, hv⟩ := List.map_eq_cons_iff.1 h.hval
  have hfirst : q.first = some n := h.first_eq
  have htl : Seg q.next (q.next n) t := (hfirst ▸ h.hnext).tail
  refine ⟨t, n :: pool, ?_⟩
  cases t with
  | nil =>
    have hnx : q.next n = none := htl.head
    have : shift true q =
        (recycleNode { q with count := q.count - 1, first := q.next n, last := none } n, .ok v) := by
      simp [shift, hfirst, hnx, hv.1]
    rw [this]
    exact ⟨rfl, remove_rep h (.refl _) hv.2 htl .nil h.hpool fun _ _ => ⟨rfl, rfl⟩, rfl⟩
  | cons f t' =>
    have hnx : q.next n = some f := htl.head
    have : shift true q = (recycleNode { q with count := q.count - 1, first := q.next n,
                                                prev := upd q.prev f none } n, .ok v) := by
      simp [shift, hfirst, hnx, hv.1]
    rw [this]
    have hfg : f ∉ q.gc := fun hm => h.gdisj f hm (by simp)
    have hprev : Seg (upd q.prev f none) q.last (f :: t').reverse :=
      (Seg.unsnoc n (by simpa using h.hprev) (by simpa using (List.reverse_perm _).nodup_iff.2 h.chain_nodup)).1 f
        (by simp)
    exact ⟨rfl, remove_rep h (.refl _) hv.2 htl hprev h.hpool fun a ha => ⟨rfl, upd_of_gc ha hfg _ _⟩, rfl⟩

theorem pop_empty (h : Rep q [] chain pool) : pop true q = (q, .empty) := by
  obtain rfl : chain = [] := List.map_eq_nil_iff.1 h.hval
  simp [pop, show q.last = none from h.last_eq]

theorem pop_rep {v} (h : Rep q (vs ++ [v]) chain pool) :
    ∃ chain' pool', (pop true q).2 = .ok v ∧ Rep (pop true q).1 vs chain' pool' ∧
      pool'.length = pool.length + 1 := by
  obtain ⟨t, _, rfl, hvt, hl⟩ := List.map_eq_append_iff.1 (h.hval.trans List.map_append)
  obtain ⟨n, _, rfl, hvn, hnil⟩ := List.map_eq_cons_iff.1 hl
  obtain rfl := List.map_eq_nil_iff.1 hnil
  have hlast : q.last = some n := by simpa using h.last_eq
  have htl : Seg q.prev (q.prev n) t.reverse :=
    Seg.tail (a := n) (by simpa [hlast] using h.hprev)
  have hp : (t ++ [n]).Perm (n :: t) := List.perm_append_singleton n t
  refine ⟨t, n :: pool, ?_⟩
  rcases List.eq_nil_or_concat t with rfl | ⟨pre, l, rfl⟩
  · have hpn : q.prev n = none := htl.head
    have : pop true q = (recycleNode { q with count := q.count - 1, last := q.prev n, first := none } n, .ok v) := by
      simp [pop, hlast, hpn, hvn]
    rw [this]
    exact ⟨rfl, remove_rep h hp hvt .nil htl h.hpool fun _ _ => ⟨rfl, rfl⟩, rfl⟩
  · rw [List.concat_eq_append] at *
    have hpn : q.prev n = some l := by simpa using htl.head
    have : pop true q = (recycleNode { q with count := q.count - 1, last := q.prev n,
                                              next := upd q.next l none } n, .ok v) := by
      simp [pop, hlast, hpn, hvn]
    rw [this]
    have hlc : l ∈ pre ++ [l] ++ [n] := by simp
    have hlg : l ∉ q.gc := fun hm => h.gdisj l hm (List.mem_append_left _ hlc)
    exact ⟨rfl, remove_rep h hp hvt ((Seg.unsnoc n h.hnext h.chain_nodup).1 l (by simp)) htl
      (h.hpool.frame _ _ (h.disj hlc)) fun a ha => ⟨upd_of_gc ha hlg _ _, rfl⟩, rfl⟩

theorem peek_empty (h : Rep q [] chain pool) : peek q = .empty := by
  obtain rfl : chain = [] := List.map_eq_nil_iff.1 h.hval
  simp [peek, show q.first = none from h.first_eq]

theorem peek_cons {v} (h : Rep q (v :: vs) chain pool) : peek q = .ok v := by
  obtain ⟨n, t, rfl, hv⟩ := List.map_eq_cons_iff.1 h.hval
  simp [peek, show q.first = some n from h.first_eq, hv.1]

theorem count_rep (h : Rep q vs chain pool) : q.count = vs.length := by
  rw [h.hcount, h.length_eq]

end FpgoVerif.C06
