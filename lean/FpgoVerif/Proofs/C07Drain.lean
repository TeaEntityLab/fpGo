import FpgoVerif.Proofs.C07Inv
/-! C07: a pass of the loader terminates and refills the channel; Poll calls + passes drain the queue; runs from a
    reachable state stay reachable. -/
namespace FpgoVerif.C07

def noOffer : Act → Bool
  | .offerLock _ => false
  | .offerChan _ => false
  | .offerHandoff _ => false
  | .offerFull _ => false
  | .offerPool _ => false
  | _ => true

def passMeasure (s : St) : Nat := 2 * s.pool.length + (optl s.inflight).length

theorem run_append (s : St) (a b : List Act) :
    run s (a ++ b) = (run s a).bind (fun s' => run s' b) := by
  induction a generalizing s with
  | nil => rfl
  | cons x xs ih =>
    simp only [List.cons_append, run]
    cases step s x with
    | none => rfl
    | some s1 => exact ih s1

theorem run_cons_some {s s1 s' : St} {a : Act} {as : List Act} (h1 : step s a = some s1) (h2 : run s1 as = some s') :
    run s (a :: as) = some s' := by simp only [run, h1, h2]

/-- `C07_pass_terminates`, by induction on a bound `n` for `passMeasure` (pool.Poll() and the try-send each lower it) -/
theorem pass_finishes (n : Nat) : ∀ s : St, passMeasure s < n → s.lock = .loader → (s.waiters = 0 ∨ 0 < s.c) →
    ∃ acts s', acts.all noOffer = true ∧ run s acts = some s' ∧ s'.lock = .free ∧ s'.lpc = .waiting ∧
      s'.delivered = s.delivered ∧ s'.accepted = s.accepted ∧
      ((s.chan ≠ [] ∨ ((s.inflight ≠ none ∨ s.pool ≠ []) ∧ 0 < s.c)) → s'.chan ≠ []) := by
  induction n with
  | zero => intro s h; omega
  | succ n ih =>
    intro s hm hl hw
    cases hin : s.inflight with
    | none =>
      cases hp : s.pool with
      | nil =>
        exact ⟨[.loaderDone], { s with lock := .free, lpc := .waiting }, rfl, by simp [run, step, hl, hin, hp],
          rfl, rfl, rfl, rfl, fun h => h.elim id (by simp)⟩
      | cons x rest =>
        obtain ⟨acts, s', ha, hr, e⟩ := ih { s with pool := rest, inflight := some x }
          (by simp [passMeasure, hp] at hm ⊢; omega) hl hw
        exact ⟨.loaderPoll :: acts, s', by simp [noOffer, ha], run_cons_some (by simp [step, hl, hin, hp]) hr,
          e.1, e.2.1, e.2.2.1, e.2.2.2.1, fun h => e.2.2.2.2 (h.imp id fun h => ⟨Or.inl nofun, h.2⟩)⟩
    | some x =>
      by_cases hroom : s.chan.length < s.c
      · obtain ⟨acts, s', ha, hr, e⟩ := ih { s with chan := s.chan ++ [x], inflight := none }
          (by simp [passMeasure, hin] at hm ⊢; omega) hl hw
        exact ⟨.loaderSend :: acts, s', by simp [noOffer, ha], run_cons_some (by simp [step, hl, hin, hroom]) hr,
          e.1, e.2.1, e.2.2.1, e.2.2.2.1, fun _ => e.2.2.2.2 (Or.inl (by simp))⟩
      · -- the channel is full: with c ≥ 1 it is not empty, so the try-send fails whoever waits
        have hne : 0 < s.c → s.chan ≠ [] := fun hc he => by rw [he] at hroom; exact hroom hc
        have hf : trySendFails s := ⟨by omega, hw.imp id hne⟩
        exact ⟨[.loaderUnshift], { s with pool := x :: s.pool, inflight := none, lock := .free, lpc := .waiting },
          rfl, by simp [run, step, hl, hin, hf], rfl, rfl, rfl, rfl, fun h => h.elim id fun h => hne h.2⟩

/-- by the token of a `notify` if the loader sleeps, at once if it already holds one -/
theorem start_pass {s : St} (hl : s.lock = .free) (hp : s.lpc ≠ .inpass) :
    ∃ pre t, pre.all noOffer = true ∧ run s pre = some { s with token := t, lock := .loader, lpc := .inpass } := by
  cases hlp : s.lpc with
  | waiting => exact ⟨[.notify, .loaderWake, .loaderLock], false, rfl, by simp [run, step, hl, hlp]⟩
  | woke => exact ⟨[.loaderLock], s.token, rfl, by simp [run, step, hl, hlp]⟩
  | inpass => exact absurd hlp hp

/-- `C07_drain` for any state satisfying the invariant, by induction on a bound `k` for the number of values
    accepted and not yet delivered -/
theorem drain {c b : Nat} (hc : 1 ≤ c) (k : Nat) : ∀ s : St, Inv c b s → s.lock = .free → s.lpc ≠ .inpass →
    s.accepted.length - s.delivered.length < k →
    ∃ acts s', acts.all noOffer = true ∧ run s acts = some s' ∧ s'.delivered = s.accepted ∧ s'.accepted = s.accepted := by
  induction k with
  | zero => intro s _ _ _ h; omega
  | succ k ih =>
    intro s hi hl hp hk
    -- once the channel is non-empty a Poll's try-receive delivers its head
    have recv : ∀ pre s1, pre.all noOffer = true → run s pre = some s1 → s1.lock = .free → s1.lpc ≠ .inpass →
        s1.accepted = s.accepted → s1.delivered = s.delivered → s1.chan ≠ [] →
        ∃ acts s', acts.all noOffer = true ∧ run s acts = some s' ∧ s'.delivered = s.accepted ∧
          s'.accepted = s.accepted := by
      intro pre s1 hpre hrun h1l h1p h1a h1d hne
      have hi1 := run_inv pre hrun hi
      obtain ⟨x, rest, hch⟩ := List.exists_cons_of_ne_nil hne
      have hstep : step s1 .tryRecv = some { s1 with chan := rest, delivered := s1.delivered ++ [x] } := by
        simp [step, hch]
      have hlen := congrArg List.length hi1.fifo
      obtain ⟨acts, s', ha, hr, hd, hacc⟩ := ih _ (step_inv hstep hi1) h1l h1p
        (by simp [hch, h1a, h1d] at hlen; simp [h1a, h1d]; omega)
      refine ⟨pre ++ .tryRecv :: acts, s', by simp [noOffer, hpre, ha], ?_, hd.trans h1a, hacc.trans h1a⟩
      rw [run_append, hrun]; exact run_cons_some hstep hr
    by_cases hch : s.chan = []
    · cases hpool : s.pool with
      | nil =>
        have hin := hi.inflight_none (by simp [hl])
        exact ⟨[], s, rfl, rfl, by simpa [hch, hpool, hin] using hi.fifo, rfl⟩
      | cons y more =>
        -- the call's token wakes the loader and its pass refills the channel
        have hcc : 0 < s.c := hi.cap ▸ hc
        obtain ⟨pre, t, hpre, hrun⟩ := start_pass hl hp
        obtain ⟨pacts, s4, hpa, hpr, h4l, h4p, h4d, h4a, hne⟩ :=
          pass_finishes _ { s with token := t, lock := .loader, lpc := .inpass } (Nat.lt_succ_self _) rfl (Or.inr hcc)
        exact recv (pre ++ pacts) s4 (by simp [hpre, hpa]) (by rw [run_append, hrun]; exact hpr) h4l (by simp [h4p])
          h4a h4d (hne (Or.inr ⟨Or.inr (by simp [hpool]), hcc⟩))
    · exact recv [] s rfl rfl hl hp rfl rfl hch

theorem reach_run {c b : Nat} {s s' : St} {acts : List Act} (h : Reach c b s) (hr : run s acts = some s') :
    Reach c b s' :=
  let ⟨pre, hp⟩ := h
  ⟨pre ++ acts, by rw [run_append, hp]; exact hr⟩

theorem reach_step {c b : Nat} {s s' : St} {a : Act} (h : Reach c b s) (hs : step s a = some s') : Reach c b s' :=
  reach_run h (run_cons_some (as := []) hs rfl)

theorem reach_stepD {c b : Nat} {s : St} (a : Act) (h : Reach c b s) : Reach c b (stepD s a) := by
  unfold stepD
  cases hs : step s a with
  | none => exact h
  | some s' => exact reach_step h hs

end FpgoVerif.C07
