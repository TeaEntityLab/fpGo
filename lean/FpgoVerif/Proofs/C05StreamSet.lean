import FpgoVerif.Proofs.C05Sets
/-! C05 — StreamSet: by key, then per-key stream. -/
namespace FpgoVerif.C05
variable {κ α : Type} [DecidableEq κ] [DecidableEq α]

/-- what the per-key post-pass leaves under a key, as a function of the three lookups
    (in the map ranged over, in the argument, in the result so far) -/
def perKeyVal (f : List α → Option (List α) → List α) (ov iv rv : Option (List α)) : Option (List α) :=
  match ov, iv with
  | some v, some v2 => if v2.length > 0 then some (f v (some v2)) else rv
  | _, _ => rv

section
variable (f : List α → Option (List α) → List α)

theorem mget_perKeyStep (input r : GoMap κ (List α)) (p : κ × List α) (k : κ) :
    mget (StreamSet.perKeyStep f input r p) k =
      if p.1 = k then perKeyVal f (some p.2) (mget input p.1) (mget r k) else mget r k := by
  unfold StreamSet.perKeyStep perKeyVal
  cases mget input p.1 with
  | none => simp
  | some v2 => by_cases hl : v2.length > 0 <;> simp [hl, mget_mset]

theorem mget_perKey (input over result : GoMap κ (List α)) (ho : (mkeys over).Nodup) (k : κ) :
    mget (StreamSet.perKey f input over result) k =
      perKeyVal f (mget over k) (mget input k) (mget result k) := by
  unfold StreamSet.perKey
  induction over generalizing result with
  | nil => rfl
  | cons p t ih =>
    obtain ⟨k0, v0⟩ := p
    rw [mkeys_cons, List.nodup_cons] at ho
    rw [List.foldl_cons, ih _ ho.2, mget_perKeyStep, mget]
    by_cases hk : k0 = k
    · subst hk; rw [(mget_none_iff t k0).2 ho.1]; simp [perKeyVal]
    · simp [hk]

end

variable (m i : GoMap κ (List α))

theorem mget_ssUnion (hm : (mkeys m).Nodup) (hi : (mkeys i).Nodup) (hne : i ≠ []) (k : κ) :
    mget (G.ssUnion m (some i)) k =
      perKeyVal (fun v v2 => Stream.extend v [v2]) (mget m k) (mget i k) ((mget i k).or (mget m k)) := by
  simp only [G.ssUnion, StreamSet.unionW, length_beq_zero hne, Bool.false_eq_true, if_false,
    duplicateMap_eq _ (nodup_mkeys_merge m i)]
  rw [mget_perKey _ _ _ _ hm, mget_merge m i hm hi]

theorem mget_ssIntersection (hm : (mkeys m).Nodup) (hi : (mkeys i).Nodup) (hne : i ≠ [])
    (k : κ) :
    mget (G.ssIntersection m (some i)) k =
      perKeyVal Stream.intersection (if mhas i k then mget m k else none) (mget i k)
        (if mhas i k then mget m k else none) := by
  have hnd := nodup_mkeys_intersectionMapByKey [m, i]
  simp only [G.ssIntersection, StreamSet.intersectionW, length_beq_zero hne, Bool.false_eq_true, if_false, duplicateMap_eq _ hnd]
  rw [mget_perKey _ _ _ _ hnd, mget_intersection2 m i hm hi]

theorem mget_ssMinusStreams (hm : (mkeys m).Nodup) (hne : i ≠ []) (k : κ) :
    mget (G.ssMinusStreams m (some i)) k = perKeyVal Stream.minus (mget m k) (mget i k) (mget m k) := by
  have hc : StreamSet.cloneW duplicateMap m = m := by
    rw [StreamSet.cloneW, duplicateMap_eq _ (nodup_mkeys_duplicateMap m), duplicateMap_eq m hm]
    exact List.map_id' m
  simp only [G.ssMinusStreams, StreamSet.minusStreamsW, length_beq_zero hne, Bool.false_eq_true, if_false, hc]
  rw [mget_perKey _ _ _ _ hm]

end FpgoVerif.C05
