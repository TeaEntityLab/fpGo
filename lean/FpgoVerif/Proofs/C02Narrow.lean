import FpgoVerif.Proofs.C02Float
import Mathlib.Tactic.Ring
import Mathlib.Tactic.Linarith
/-! C02 — `narrow_guard_eval`, `ratLog2_le_of` and `round_core` in the context in which `2 ^ k` on `ℕ` is Mathlib's
    `Monoid.npow` (definitionally `Nat.pow`).  The arguments are the core-only lemmas `narrowGuard_eval` (`C02Float`),
    `ratLog2_le` and `round_lt` (`C02Round`), which is what the proofs of the cells use. -/
namespace FpgoVerif.C02

theorem narrow_guard_eval (g : C) (h : narrowGuardOK g = true) (v : FVal) :
    evalC (.f64 v) g = some (match v with
      | .fin _ m k => decide (m ≤ f32.maxFinite * 2 ^ k)
      | _ => true) := by
  cases v <;> exact narrowGuard_eval g h _

theorem ratLog2_le_of (num den B : Nat) (hd : 0 < den) (hn : 0 < num) (h : num < 2 ^ (B + 1) * den) :
    ratLog2 num den ≤ B :=
  ratLog2_le num den B hn h

theorem round_core (p t qn num den : Nat) (hq : qn ≤ t) (hd : 0 < den) (h : num ≤ (2 ^ p - 1) * 2 ^ t * den) :
    divRNE num (den * 2 ^ qn) * 2 ^ qn < 2 ^ (p + t) :=
  round_lt p t qn num den hq hd h

end FpgoVerif.C02
