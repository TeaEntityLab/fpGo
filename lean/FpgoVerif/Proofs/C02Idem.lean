import FpgoVerif.Proofs.C02Round
import Mathlib.Algebra.Order.Field.Rat
import Mathlib.Algebra.Order.GroupWithZero.Basic
import Mathlib.Data.Rat.Cast.Order
import Mathlib.Tactic.FieldSimp
import Mathlib.Tactic.Positivity
import Mathlib.Tactic.NormNum
import Mathlib.Tactic.Linarith
import Mathlib.Tactic.Ring
/-! C02 — round-to-nearest-even is idempotent (`RoundIdem`): the value `roundRat` returns is `N · 2^Q` with
    `N ≤ 2^p`, `Q ≥ qmin`, and re-rounding such a value divides exactly.  The exponent arithmetic is done in ℚ
    with integer powers of two. -/
namespace FpgoVerif.C02

noncomputable def P2 (x : Int) : ℚ := (2 : ℚ) ^ x

theorem P2_pos (x : Int) : 0 < P2 x := zpow_pos (by norm_num) x
theorem P2_add (x y : Int) : P2 (x + y) = P2 x * P2 y := zpow_add₀ (by norm_num) x y
theorem P2_sub (x y : Int) : P2 (x - y) = P2 x / P2 y := zpow_sub₀ (by norm_num) x y
theorem P2_le {x y : Int} (h : x ≤ y) : P2 x ≤ P2 y := zpow_le_zpow_right₀ (by norm_num) h
theorem P2_lt_iff {x y : Int} : P2 x < P2 y ↔ x < y := zpow_lt_zpow_iff_right₀ (by norm_num)
theorem P2_nat (n : Nat) : P2 (n : Int) = ((2 ^ n : Nat) : ℚ) := by
  unfold P2; rw [zpow_natCast]; push_cast; rfl
theorem P2_toNat {x : Int} (h : 0 ≤ x) : P2 x = ((2 ^ x.toNat : Nat) : ℚ) := by
  rw [← P2_nat]; congr 1; omega
theorem P2_neg_toNat {x : Int} (h : x < 0) : P2 x = 1 / ((2 ^ (-x).toNat : Nat) : ℚ) := by
  rw [← P2_toNat (by omega : 0 ≤ -x), one_div]
  unfold P2
  rw [zpow_neg, inv_inv]
theorem mul_P2_lt {N a : Nat} (h : N < 2 ^ a) (Q : Int) : (N : ℚ) * P2 Q < P2 ((a : Int) + Q) := by
  rw [P2_add, P2_nat]
  exact mul_lt_mul_of_pos_right (by exact_mod_cast h) (P2_pos Q)
theorem P2_succ (n : Nat) : P2 ((n : Int) + 1) = ((2 ^ (n + 1) : Nat) : ℚ) := P2_nat (n + 1)

theorem scale_q (num den : Nat) (x : Int) (hd : 0 < den) :
    0 < (scale num den x).2 ∧
    ((scale num den x).1 : ℚ) / ((scale num den x).2 : ℚ) = (num : ℚ) / (den : ℚ) / P2 x := by
  have hdq : (0 : ℚ) < (den : ℚ) := by exact_mod_cast hd
  unfold scale
  split
  · rename_i hx
    refine ⟨Nat.mul_pos hd (Nat.two_pow_pos _), ?_⟩
    rw [P2_toNat hx]
    push_cast
    field_simp
  · rename_i hx
    refine ⟨hd, ?_⟩
    rw [P2_neg_toNat (by omega)]
    push_cast
    field_simp

theorem log2_q (n : Nat) (hn : 1 ≤ n) : P2 (log2 n) ≤ (n : ℚ) ∧ (n : ℚ) < P2 ((log2 n : Int) + 1) := by
  rw [P2_nat, P2_succ]
  exact ⟨by exact_mod_cast log2_lb n hn, by exact_mod_cast log2_ub n⟩

theorem ratLog2_spec (num den : Nat) (hn : 0 < num) (hd : 0 < den) :
    P2 (ratLog2 num den) ≤ (num : ℚ) / den ∧ (num : ℚ) / den < P2 (ratLog2 num den + 1) := by
  have hdq : (0 : ℚ) < (den : ℚ) := by exact_mod_cast hd
  obtain ⟨hnl, hnu⟩ := log2_q num hn
  obtain ⟨hdl, hdu⟩ := log2_q den hd
  unfold ratLog2
  simp only
  generalize he0 : (log2 num : Int) - (log2 den : Int) = e0
  obtain ⟨hb, hs⟩ := scale_q num den e0 hd
  have hbq : (0 : ℚ) < ((scale num den e0).2 : ℚ) := by exact_mod_cast hb
  have hp0 := P2_pos e0
  have hpd := P2_pos (log2 den : Int)
  -- `a ≥ b` for the scaled fraction `a/b = value / 2^e0` says `value ≥ 2^e0`
  split
  · rename_i hge
    have h1 : P2 e0 ≤ (num : ℚ) / den := by
      rw [← one_le_div₀ hp0, ← hs, one_le_div₀ hbq]
      exact_mod_cast hge
    refine ⟨h1, ?_⟩
    -- value < 2^(ln+1) / 2^ld
    have : e0 + 1 = ((log2 num : Int) + 1) - (log2 den : Int) := by omega
    rw [this, P2_sub, div_lt_div_iff₀ hdq hpd]
    calc (num : ℚ) * P2 (log2 den) ≤ (num : ℚ) * den := by
          apply mul_le_mul_of_nonneg_left hdl; positivity
      _ < P2 ((log2 num : Int) + 1) * den := by
          apply mul_lt_mul_of_pos_right hnu hdq
  · rename_i hlt
    have h1 : (num : ℚ) / den < P2 e0 := by
      rw [← div_lt_one₀ hp0, ← hs, div_lt_one₀ hbq]
      exact_mod_cast Nat.lt_of_not_le hlt
    rw [Int.sub_add_cancel]
    refine ⟨?_, h1⟩
    -- 2^(e0-1) = 2^ln / 2^(ld+1) ≤ value
    have : e0 - 1 = (log2 num : Int) - ((log2 den : Int) + 1) := by omega
    rw [this, P2_sub, div_le_div_iff₀ (P2_pos _) hdq]
    calc P2 (log2 num) * den ≤ (num : ℚ) * den := by
          apply mul_le_mul_of_nonneg_right hnl; positivity
      _ ≤ (num : ℚ) * P2 ((log2 den : Int) + 1) := by
          apply mul_le_mul_of_nonneg_left (le_of_lt hdu); positivity

theorem ratLog2_le_int (num den : Nat) (hn : 0 < num) (hd : 0 < den) (B : Int)
    (h : (num : ℚ) / den < P2 (B + 1)) : ratLog2 num den ≤ B := by
  have := P2_lt_iff.mp (lt_of_le_of_lt (ratLog2_spec num den hn hd).1 h)
  omega

theorem divRNE_exact (I b : Nat) (hb : 0 < b) : divRNE (I * b) b = I := by
  unfold divRNE
  simp only [Nat.mul_div_cancel _ hb, Nat.mul_mod_left]
  rw [if_neg (by omega)]

theorem reround (f : Fmt) (hf : f = f32 ∨ f = f64) (neg : Bool) (m k N : Nat) (Q : Int) (hm : 0 < m)
    (hV : (m : ℚ) / ((2 ^ k : Nat) : ℚ) = (N : ℚ) * P2 Q) (hN : N ≤ 2 ^ f.p) (hQ : f.qmin ≤ Q)
    (hfin : (m : ℚ) / ((2 ^ k : Nat) : ℚ) < P2 ((f.bias : Int) + 1)) :
    sameFloat (roundRat f neg m (2 ^ k)) (.fin neg m k) = true := by
  obtain ⟨hp1, hpb, hqm⟩ := fmt_facts f hf
  have hden : 0 < 2 ^ k := Nat.two_pow_pos k
  have hdenq : (0 : ℚ) < ((2 ^ k : Nat) : ℚ) := by exact_mod_cast hden
  -- exponent of the value: `N < 2^a` puts it below `a + Q`
  have hexp : ∀ a : Nat, N < 2 ^ a → ratLog2 m (2 ^ k) ≤ (a : Int) + Q - 1 := by
    intro a hlt
    apply ratLog2_le_int m (2 ^ k) hm hden
    rw [hV, Int.sub_add_cancel]
    exact mul_P2_lt hlt Q
  have he1 : ratLog2 m (2 ^ k) ≤ (f.p : Int) + Q := by
    have := hexp (f.p + 1) (Nat.lt_of_le_of_lt hN (Nat.pow_lt_pow_succ (by decide)))
    omega
  have he2 := hexp f.p
  unfold roundRat
  rw [if_neg (by omega : ¬ m = 0)]
  simp only
  generalize ratLog2 m (2 ^ k) = e' at he1 he2
  generalize hq' : max (e' - ((f.p : Int) - 1)) f.qmin = q'
  -- the quotient value / 2^q' is a natural number
  have hI : ∃ I : Nat, (I : ℚ) * P2 q' = (N : ℚ) * P2 Q := by
    by_cases hle : q' ≤ Q
    · refine ⟨N * 2 ^ (Q - q').toNat, ?_⟩
      rw [Nat.cast_mul, mul_assoc, ← P2_toNat (by omega : 0 ≤ Q - q'), ← P2_add, Int.sub_add_cancel]
    · -- only `N = 2^p` has its exponent above `p + Q - 1`, and then `q' = Q + 1`
      have hNe : N = 2 ^ f.p := by
        refine Nat.le_antisymm hN (Nat.le_of_not_lt fun hlt => ?_)
        have := he2 hlt
        omega
      have hq1 : q' = Q + 1 := by omega
      refine ⟨2 ^ (f.p - 1), ?_⟩
      have hNq' : (N : ℚ) = P2 (f.p : Int) := by rw [P2_nat, hNe]
      rw [hNq', ← P2_nat, ← P2_add, ← P2_add]
      congr 1
      omega
  obtain ⟨I, hIV⟩ := hI
  rw [← hV] at hIV
  obtain ⟨hb, hs⟩ := scale_q m (2 ^ k) q' hden
  have hbq : (0 : ℚ) < ((scale m (2 ^ k) q').2 : ℚ) := by exact_mod_cast hb
  have hab : (scale m (2 ^ k) q').1 = I * (scale m (2 ^ k) q').2 := by
    have := (div_eq_iff hbq.ne').mp (hs.trans (by rw [← hIV, mul_div_cancel_right₀ _ (P2_pos q').ne']))
    exact_mod_cast this
  rw [hab, divRNE_exact I _ hb]
  split
  · rename_i hq0
    have hv : ((I * 2 ^ q'.toNat : Nat) : ℚ) = (m : ℚ) / ((2 ^ k : Nat) : ℚ) := by
      rw [← hIV, P2_toNat hq0]; push_cast; rfl
    have hnov : ¬ (I * 2 ^ q'.toNat ≥ 2 ^ (f.bias + 1)) := by
      rw [← hv, P2_succ] at hfin
      exact Nat.not_le.mpr (by exact_mod_cast hfin)
    rw [if_neg hnov]
    have heq : I * 2 ^ q'.toNat * 2 ^ k = m := by
      have := (eq_div_iff hdenq.ne').mp hv
      exact_mod_cast this
    simp [sameFloat, heq]
  · rename_i hq0
    obtain ⟨m'', k'', hn1, hn2⟩ := normFin_value neg I (-q').toNat
    rw [hn1]
    have hq0' : q' < 0 := by omega
    -- `I / 2^(-q') = m / 2^k`, cross-multiplied in ℕ, and `normFin` keeps `I / 2^(-q')`
    have hI : I * 2 ^ k = m * 2 ^ (-q').toNat := by
      rw [P2_neg_toNat hq0', mul_one_div, div_eq_div_iff (by positivity) hdenq.ne'] at hIV
      exact_mod_cast hIV
    have hcross : m'' * 2 ^ k = m * 2 ^ k'' :=
      Nat.eq_of_mul_eq_mul_right (Nat.two_pow_pos (-q').toNat) (by
        rw [Nat.mul_right_comm, hn2, Nat.mul_right_comm, hI, Nat.mul_right_comm])
    simp only [sameFloat, hcross, decide_true, Bool.true_and, beq_self_eq_true, Bool.or_true]

theorem roundRat_shape (f : Fmt) (hf : f = f32 ∨ f = f64) (neg : Bool) (num den : Nat) (hn : 0 < num) (hd : 0 < den) :
    roundRat f neg num den = .inf neg ∨
    ∃ (m k N : Nat) (Q : Int), roundRat f neg num den = .fin neg m k ∧
      (m : ℚ) / ((2 ^ k : Nat) : ℚ) = (N : ℚ) * P2 Q ∧ N ≤ 2 ^ f.p ∧ f.qmin ≤ Q ∧
      (m : ℚ) / ((2 ^ k : Nat) : ℚ) < P2 ((f.bias : Int) + 1) := by
  obtain ⟨hp1, hpb, hqm⟩ := fmt_facts f hf
  obtain ⟨_, hub⟩ := ratLog2_spec num den hn hd
  unfold roundRat
  rw [if_neg (by omega : ¬ num = 0)]
  simp only
  generalize ratLog2 num den = e at hub
  generalize hq : max (e - ((f.p : Int) - 1)) f.qmin = q
  obtain ⟨hb, hs⟩ := scale_q num den q hd
  have hbq : (0 : ℚ) < ((scale num den q).2 : ℚ) := by exact_mod_cast hb
  have hN : divRNE (scale num den q).1 (scale num den q).2 ≤ 2 ^ f.p := by
    apply divRNE_le_of _ _ _ hb
    have h1 : ((scale num den q).1 : ℚ) / ((scale num den q).2 : ℚ) < P2 (f.p : Int) := by
      rw [hs]
      calc (num : ℚ) / den / P2 q < P2 (e + 1) / P2 q := div_lt_div_of_pos_right hub (P2_pos q)
        _ = P2 (e + 1 - q) := (P2_sub _ _).symm
        _ ≤ P2 (f.p : Int) := P2_le (by omega)
    rw [div_lt_iff₀ hbq, P2_nat] at h1
    have : (scale num den q).1 < 2 ^ f.p * (scale num den q).2 := by exact_mod_cast h1
    omega
  generalize divRNE (scale num den q).1 (scale num den q).2 = N at hN
  split
  · rename_i hq0
    split
    · left; rfl
    · rename_i hnov
      right
      refine ⟨N * 2 ^ q.toNat, 0, N, q, rfl, ?_, hN, by omega, ?_⟩
      · rw [P2_toNat hq0]; push_cast; ring
      · have hlt : N * 2 ^ q.toNat < 2 ^ (f.bias + 1) := by omega
        rw [P2_succ, Nat.pow_zero, Nat.cast_one, div_one]
        exact_mod_cast hlt
  · rename_i hq0
    right
    have hq0' : q < 0 := by omega
    obtain ⟨m, k, h1, h2⟩ := normFin_value neg N (-q).toNat
    have hk : (0 : ℚ) < ((2 ^ k : Nat) : ℚ) := by positivity
    have hj : (0 : ℚ) < ((2 ^ (-q).toNat : Nat) : ℚ) := by positivity
    have hval : (m : ℚ) / ((2 ^ k : Nat) : ℚ) = (N : ℚ) * P2 q := by
      rw [P2_neg_toNat hq0', mul_one_div, div_eq_div_iff hk.ne' hj.ne']
      exact_mod_cast h2
    refine ⟨m, k, N, q, h1, hval, hN, by omega, ?_⟩
    rw [hval]
    exact lt_of_lt_of_le (mul_P2_lt (Nat.lt_of_le_of_lt hN (Nat.pow_lt_pow_succ (by decide))) q) (P2_le (by omega))

theorem roundRat_zero (f : Fmt) (neg : Bool) (den : Nat) : roundRat f neg 0 den = .fin neg 0 0 := by
  unfold roundRat; simp

def RoundIdem (f : Fmt) : Prop :=
  ∀ (s : Bool) (n d : Nat), 0 < d → sameFloat ((roundRat f s n d).roundTo f) (roundRat f s n d) = true

theorem roundRat_idem (f : Fmt) (hf : f = f32 ∨ f = f64) : RoundIdem f := by
  intro neg num den hd
  by_cases hn : num = 0
  · subst hn
    rw [roundRat_zero]
    simp only [FVal.roundTo, roundNE, roundRat_zero]
    simp [sameFloat]
  · rcases roundRat_shape f hf neg num den (Nat.pos_of_ne_zero hn) hd with h | ⟨m, k, N, Q, h, hV, hN, hQ, hfin⟩
    · rw [h]; simp [FVal.roundTo, sameFloat]
    · rw [h]
      simp only [FVal.roundTo, roundNE]
      by_cases hm : m = 0
      · subst hm
        rw [roundRat_zero]
        simp [sameFloat]
      · exact reround f hf neg m k N Q (Nat.pos_of_ne_zero hm) hV hN hQ hfin

end FpgoVerif.C02
