import FpgoVerif.Model.C09Sys
/-! C09: each of the three step functions is inverted once (`stepW_cases`, `stepSub_cases`, `stepPool_cases`): what the
    step moves and what it leaves alone.  The four bookkeeping invariants are proved from these, clause by clause. -/
namespace FpgoVerif.C09

theorem lt_of_getElem? {α : Type} {l : List α} {i : Nat} {a : α} (h : l[i]? = some a) : i < l.length :=
  (List.getElem?_eq_some_iff.1 h).1

def wsum (f : WPc → Nat) : List WPc → Nat
  | [] => 0
  | w :: l => f w + wsum f l

theorem wsum_append (f : WPc → Nat) (l1 l2 : List WPc) : wsum f (l1 ++ l2) = wsum f l1 + wsum f l2 := by
  induction l1 with
  | nil => simp [wsum]
  | cons w l ih => simp [wsum, ih]; omega

theorem wsum_set (f : WPc → Nat) {l : List WPc} {i : Nat} {w : WPc} (h : l[i]? = some w) :
    ∃ r, wsum f l = r + f w ∧ ∀ w', wsum f (l.set i w') = r + f w' := by
  induction l generalizing i with
  | nil => simp at h
  | cons x l ih =>
    cases i with
    | zero =>
      simp at h; subst h
      exact ⟨wsum f l, Nat.add_comm _ _, fun _ => Nat.add_comm _ _⟩
    | succ i =>
      obtain ⟨r, h1, h2⟩ := ih (by simpa using h)
      exact ⟨f x + r, by simp only [wsum, h1, Nat.add_assoc],
        fun w' => by simp only [List.set_cons_succ, wsum, h2, Nat.add_assoc]⟩

/-- the worker still counts in workerCount -/
def alive : WPc → Nat
  | .top | .sel | .got _ | .run _ | .aft _ | .pan _ _ | .exitDec _ => 1
  | _ => 0
/-- the worker still counts in workerBusy -/
def busyW : WPc → Nat
  | .run _ | .aft _ | .pan _ _ | .exitDec true => 1
  | _ => 0
def execW : WPc → Nat
  | .run _ => 1
  | _ => 0
def gotJ (j : Nat) : WPc → Nat
  | .got k => if k = j then 1 else 0
  | _ => 0
def runJ (j : Nat) : WPc → Nat
  | .run k => if k = j then 1 else 0
  | _ => 0
def panJV (jv : Nat × Nat) : WPc → Nat
  | .pan k u => if (k, u) = jv then 1 else 0
  | _ => 0

theorem execW_le_busyW (w : WPc) : execW w ≤ busyW w := by cases w <;> simp [execW, busyW]
theorem busyW_le_alive (w : WPc) : busyW w ≤ alive w := by
  cases w <;> simp [alive, busyW]
  case exitDec p => cases p <;> simp
theorem wsum_le {f g : WPc → Nat} (h : ∀ w, f w ≤ g w) (l : List WPc) : wsum f l ≤ wsum g l := by
  induction l with
  | nil => simp [wsum]
  | cons w l ih => have := h w; simp [wsum]; omega

macro "step_split" h:ident : tactic =>
  `(tactic| ((repeat' (split at $h:ident)) <;> (first | (simp at $h:ident; done) | (injection $h:ident with $h:ident; subst $h:ident))))

/-- `stepW` as a relation; of the guards only those an invariant needs are recorded -/
inductive WStep (c : Cfg) (s : St) (i : Nat) : Act → WPc → St → Prop
  | exit : s.closed = true → WStep c s i (.wCheck i) .top (setW s i (.exitDec false))
  | sel : WStep c s i (.wCheck i) .top (setW s i .sel)
  | recv {j rest} : s.queue = j :: rest → WStep c s i (.wRecv i) .sel { setW s i (.got j) with queue := rest }
  | back {a} : WStep c s i a .sel (setW s i .top)
  | retire : s.count > c.standby ∨ s.count > c.max →
      WStep c s i (.wExpire i) .sel { setW s i .gone with count := s.count - 1 }
  | retireLater : ¬ c.atomicExpiry = true → WStep c s i (.wExpire i) .sel (setW s i (.exitDec false))
  | start {j} : WStep c s i (.wStart i) (.got j) { setW s i (.run j) with busy := s.busy + 1, started := j :: s.started }
  | finish {j} : WStep c s i (.wFinish i) (.run j) { setW s i (.aft j) with finished := j :: s.finished }
  | panic {j v} : WStep c s i (.wPanic i v) (.run j)
      { setW s i (.pan j v) with finished := j :: s.finished, panicLog := (j, v) :: s.panicLog }
  | report {j v} : WStep c s i (.wHandler i) (.pan j v)
      { setW s i (.exitDec true) with handlerLog := (j, v) :: s.handlerLog }
  | swallow {j v} : WStep c s i (.wHandler i) (.pan j v)
      { setW s i (.exitDec true) with unreported := (j, v) :: s.unreported }
  | idle {j} : WStep c s i (.wBusyDec i) (.aft j) { setW s i .top with busy := s.busy - 1 }
  | die : WStep c s i (.wExitDec i) (.exitDec true) { setW s i .exitTok with count := s.count - 1, busy := s.busy - 1 }
  | leave : WStep c s i (.wExitDec i) (.exitDec false) { setW s i .gone with count := s.count - 1 }
  | token : WStep c s i (.wExitTok i) .exitTok { setW s i .gone with token := true }

theorem stepW_cases {c : Cfg} {s t : St} {a : Act} (h : stepW c s a = some t) :
    ∃ i w, s.workers[i]? = some w ∧ WStep c s i a w t := by
  unfold stepW at h
  step_split h
  all_goals exact ⟨_, _, ‹_ = some _›, by constructor <;> assumption⟩

/-- `stepSub` for a call that exists already, as a relation -/
inductive SStep (c : Cfg) (s : St) (i : Nat) (sb : Sub) : St → Prop
  | closed : sb.pc = .check →
      SStep c s i sb { setS s i { sb with pc := .fin .poolClosed } with rejected := i :: s.rejected }
  | pass : sb.pc = .check → SStep c s i sb (setS s i { sb with pc := .offer })
  | offerClosed : sb.pc = .offer → SStep c s i sb (setS s i { sb with pc := .token .queueClosed })
  | offerFull : sb.pc = .offer → SStep c s i sb (setS s i { sb with pc := .token .full })
  | accept : sb.pc = .offer →
      SStep c s i sb { setS s i { sb with pc := .token .ok } with queue := s.queue ++ [i], accepted := i :: s.accepted }
  | retryFirst {r} : sb.pc = .token r → r = .full ∧ sb.timed = true →
      SStep c s i sb (setS { s with token := true } i { sb with first := false, pc := .lcheck })
  | retry {r} : sb.pc = .token r → r = .full ∧ sb.timed = true →
      SStep c s i sb (setS { s with token := true } i { sb with pc := .dcheck })
  | done {r} : sb.pc = .token r → r = .ok → SStep c s i sb (setS { s with token := true } i { sb with pc := .fin r })
  | fail {r} : sb.pc = .token r → ¬ (r = .full ∧ sb.timed = true) → ¬ r = .ok →
      SStep c s i sb { setS { s with token := true } i { sb with pc := .fin r } with rejected := i :: s.rejected }
  | closedLoop : sb.pc = .lcheck →
      SStep c s i sb { setS s i { sb with pc := .fin .poolClosed } with rejected := i :: s.rejected }
  | again : sb.pc = .lcheck → SStep c s i sb (setS s i { sb with pc := .check })
  | timeout : sb.pc = .dcheck → sb.dl = true →
      SStep c s i sb { setS s i { sb with pc := .fin .timeout } with rejected := i :: s.rejected }
  | wait : sb.pc = .dcheck → SStep c s i sb (setS s i { sb with pc := .lcheck })
  | deadline : SStep c s i sb (setS s i { sb with dl := true })

theorem stepSub_cases {c : Cfg} {s t : St} {a : Act} (h : stepSub c s a = some t) :
    (∃ sb, sb.pc = .check ∧ t = { s with subs := s.subs ++ [sb] }) ∨
    ∃ i sb, s.subs[i]? = some sb ∧ SStep c s i sb t := by
  unfold stepSub afterSchedule at h
  step_split h
  -- `closed` and `closedLoop` end in the same state: `constructor` finds the first, the guard decides
  all_goals first
    | exact .inr ⟨_, _, ‹_ = some _›, by first | constructor <;> assumption | exact .closedLoop ‹_›⟩
    | exact .inl ⟨_, rfl, rfl⟩

theorem genWorker_eq (c : Cfg) (s : St) (m : Nat) :
    genWorker c s m = s ∨
    (s.count < c.max ∧ genWorker c s m = { s with count := s.count + 1, workers := s.workers ++ [.top] }) := by
  unfold genWorker; split
  · exact .inl rfl
  · exact .inr ⟨by omega, rfl⟩

theorem genWorker_closed (c : Cfg) (s : St) (m : Nat) : (genWorker c s m).closed = s.closed := by
  rcases genWorker_eq c s m with e | ⟨_, e⟩ <;> rw [e]

/-- as far as workers, calls, queue, counters and history go, a pool step is a generateWorkerWithMaximum, the
    queue's Close, or nothing -/
theorem stepPool_cases {c : Cfg} {s t : St} {a : Act} (h : stepPool c s a = some t) :
    ∃ u, (u = s ∨ (∃ m, u = genWorker c s m) ∨
          ∃ keep, u = { s with queue := s.queue.take keep, dropped := s.queue.drop keep ++ s.dropped }) ∧
      ∃ closed cl qclosed token sp handler, (closed = s.closed ∨ closed = true) ∧
        t = { u with closed, cl, qclosed, token, sp, handler } := by
  unfold stepPool at h
  step_split h
  all_goals first
    | exact ⟨s, .inl rfl, _, _, _, _, _, _, .inl rfl, rfl⟩
    | exact ⟨s, .inl rfl, _, _, _, _, _, _, .inr rfl, rfl⟩
    | exact ⟨_, .inr (.inl ⟨_, rfl⟩), _, _, _, _, _, _, .inl (genWorker_closed ..), rfl⟩
    | exact ⟨_, .inr (.inr ⟨_, rfl⟩), _, _, _, _, _, _, .inl rfl, rfl⟩

structure InvW (c : Cfg) (s : St) : Prop where
  cnt : s.count = wsum alive s.workers
  bsy : s.busy = wsum busyW s.workers
  cap : s.count ≤ c.max

structure InvJ (s : St) : Prop where
  acc : ∀ j, s.accepted.count j =
    s.queue.count j + s.dropped.count j + wsum (gotJ j) s.workers + s.started.count j
  sta : ∀ j, s.started.count j = wsum (runJ j) s.workers + s.finished.count j

def isAcc : SPc → Bool
  | .token .ok | .fin .ok => true
  | _ => false
def isRej : SPc → Bool
  | .fin .ok => false
  | .fin _ => true
  | _ => false
def accOf (subs : List Sub) (j : Nat) : Nat :=
  match subs[j]? with
  | some sb => if isAcc sb.pc then 1 else 0
  | none => 0

theorem accOf_le_one (subs : List Sub) (j : Nat) : accOf subs j ≤ 1 := by
  unfold accOf; split
  · split <;> omega
  · omega

structure InvS (s : St) : Prop where
  acc : ∀ j, s.accepted.count j = accOf s.subs j
  rej : ∀ j, j ∈ s.rejected → ∃ sb, s.subs[j]? = some sb ∧ isRej sb.pc = true
  tim : ∀ (i : Nat) (sb : Sub), s.subs[i]? = some sb → (sb.pc = .lcheck ∨ sb.pc = .dcheck ∨ sb.pc = .fin .timeout) → sb.timed = true
  tmo : ∀ (i : Nat) (sb : Sub), s.subs[i]? = some sb → sb.pc = .fin .timeout → sb.dl = true
  ful : ∀ (i : Nat) (sb : Sub), s.subs[i]? = some sb → sb.pc = .fin .full → sb.timed = false
  tok : ∀ (i : Nat) (sb : Sub), s.subs[i]? = some sb → sb.pc ≠ .token .timeout

theorem getElem?_set_of {l : List Sub} {i : Nat} {sb sb' : Sub} (h : l[i]? = some sb) (j : Nat) :
    (l.set i sb')[j]? = if i = j then some sb' else l[j]? := by
  rw [List.getElem?_set]; simp [lt_of_getElem? h]

theorem accOf_append_new {l : List Sub} {sb : Sub} (h : isAcc sb.pc = false) (j : Nat) :
    accOf (l ++ [sb]) j = accOf l j := by
  unfold accOf
  rcases Nat.lt_or_ge j l.length with hlt | hge
  · rw [List.getElem?_append_left hlt]
  · rw [List.getElem?_append_right hge, List.getElem?_eq_none hge]
    cases j - l.length <;> simp [h]

theorem getElem?_append_new {l : List Sub} {sb sb' : Sub} {j : Nat} (h : (l ++ [sb])[j]? = some sb') :
    l[j]? = some sb' ∨ sb' = sb := by
  rcases Nat.lt_or_ge j l.length with hlt | hge
  · rw [List.getElem?_append_left hlt] at h; exact .inl h
  · rw [List.getElem?_append_right hge] at h; exact .inr (List.mem_singleton.mp (List.mem_of_getElem? h))

theorem forall_entries {P : Sub → Prop} {l l' : List Sub} {sb' : Sub}
    (hl : ∀ {k : Nat} {x : Sub}, l'[k]? = some x → l[k]? = some x ∨ x = sb') (h : ∀ (k : Nat) x, l[k]? = some x → P x) (hp : P sb')
    (k : Nat) (x : Sub) (hk : l'[k]? = some x) : P x :=
  (hl hk).elim (h k x) (fun e => e ▸ hp)

theorem invS_set {s s' : St} {i : Nat} {sb sb' : Sub} (hi : InvS s) (hs : s.subs[i]? = some sb)
    (hsubs : s'.subs = s.subs.set i sb')
    (hacc : (s'.accepted = s.accepted ∧ isAcc sb'.pc = isAcc sb.pc) ∨
            (s'.accepted = i :: s.accepted ∧ isAcc sb.pc = false ∧ isAcc sb'.pc = true))
    (hrej : (s'.rejected = s.rejected ∧ (isRej sb.pc = true → isRej sb'.pc = true)) ∨
            (s'.rejected = i :: s.rejected ∧ isRej sb'.pc = true))
    (htim : (sb'.pc = .lcheck ∨ sb'.pc = .dcheck ∨ sb'.pc = .fin .timeout) → sb'.timed = true)
    (htmo : sb'.pc = .fin .timeout → sb'.dl = true)
    (hful : sb'.pc = .fin .full → sb'.timed = false)
    (htok : sb'.pc ≠ .token .timeout) : InvS s' := by
  have hl : ∀ {k : Nat} {x : Sub}, s'.subs[k]? = some x → s.subs[k]? = some x ∨ x = sb' := fun {k x} hk => by
    rw [hsubs, getElem?_set_of hs] at hk
    split at hk
    · exact .inr (Option.some.inj hk).symm
    · exact .inl hk
  refine ⟨fun j => ?_, fun j hj => ?_, forall_entries hl hi.tim htim, forall_entries hl hi.tmo htmo,
    forall_entries hl hi.ful hful, forall_entries hl hi.tok htok⟩
  · have := hi.acc j
    unfold accOf at *
    rw [hsubs, getElem?_set_of hs]
    by_cases hij : i = j
    · subst hij
      rw [hs] at this
      rcases hacc with ⟨h1, h2⟩ | ⟨h1, h2, h3⟩
      · simp [h1, h2, this]
      · simp [h1, h2, h3] at this ⊢; exact this
    · rcases hacc with ⟨h1, _⟩ | ⟨h1, _⟩ <;> simp [h1, hij, this]
  · rw [hsubs, getElem?_set_of hs]
    by_cases hij : i = j
    · subst hij
      refine ⟨sb', by simp, hrej.elim (fun ⟨h1, h2⟩ => ?_) (·.2)⟩
      obtain ⟨sb0, h3, h4⟩ := hi.rej i (h1 ▸ hj)
      rw [hs] at h3; cases h3; exact h2 h4
    · simp only [hij, if_false]
      refine hi.rej j (hrej.elim (fun h => h.1 ▸ hj) (fun h => ?_))
      rw [h.1] at hj
      exact (List.mem_cons.mp hj).resolve_left (fun e => hij e.symm)

macro "sub_close" i:ident : tactic =>
  `(tactic| (
    have hs := ‹_[$i:ident]? = some _›
    have t1 := InvS.tim ‹_› _ _ hs
    have t2 := InvS.tmo ‹_› _ _ hs
    have t3 := InvS.ful ‹_› _ _ hs
    have t4 := InvS.tok ‹_› _ _ hs
    refine invS_set ‹_› hs rfl ?_ ?_ ?_ ?_ ?_ ?_ <;> simp_all [isAcc, isRej, setS]))


structure InvP (s : St) : Prop where
  han : ∀ jv, s.panicLog.count jv = wsum (panJV jv) s.workers + s.handlerLog.count jv + s.unreported.count jv
  pan : ∀ j, (s.panicLog.map Prod.fst).count j ≤ s.finished.count j

structure Inv (c : Cfg) (s : St) : Prop where
  W : InvW c s
  J : InvJ s
  S : InvS s
  P : InvP s

/-- a new worker at the loop head carries weight only in `alive` -/
theorem inv_genWorker {c : Cfg} {s : St} (m : Nat) (h : Inv c s) : Inv c (genWorker c s m) := by
  rcases genWorker_eq c s m with e | ⟨hlt, e⟩ <;> rw [e]
  · exact h
  · exact ⟨⟨by simp [wsum_append, wsum, alive, h.W.cnt], by simp [wsum_append, wsum, busyW, h.W.bsy], hlt⟩,
      ⟨fun j => by simp [wsum_append, wsum, gotJ, h.J.acc j], fun j => by simp [wsum_append, wsum, runJ, h.J.sta j]⟩,
      { h.S with },
      ⟨fun jv => by simp [wsum_append, wsum, panJV, h.P.han jv], h.P.pan⟩⟩

theorem inv_stepW {c : Cfg} {s t : St} {a : Act} (h : stepW c s a = some t) (hi : Inv c s) : Inv c t := by
  obtain ⟨i, w, hw, hst⟩ := stepW_cases h
  refine ⟨⟨?_, ?_, ?_⟩, ⟨fun j => ?_, fun j => ?_⟩, ?_, ⟨fun jv => ?_, fun j => ?_⟩⟩
  · have a1 := hi.W.cnt
    obtain ⟨r, g, g'⟩ := wsum_set alive hw
    rw [g] at a1
    cases hst <;> simp only [setW, g']
    case retire | die | leave => simp only [alive] at a1 ⊢; omega
    all_goals exact a1
  · have a1 := hi.W.bsy
    obtain ⟨r, g, g'⟩ := wsum_set busyW hw
    rw [g] at a1
    cases hst <;> simp only [setW, g']
    case start | idle | die => simp only [busyW] at a1 ⊢; omega
    all_goals exact a1
  · cases hst
    case retire | die | leave => exact Nat.le_trans (Nat.sub_le _ _) hi.W.cap
    all_goals exact hi.W.cap
  · have a1 := hi.J.acc j
    obtain ⟨r, g, g'⟩ := wsum_set (gotJ j) hw
    rw [g] at a1
    cases hst <;> simp only [setW, g']
    case recv hq => rw [hq] at a1; simp only [gotJ, List.count_cons, beq_iff_eq] at a1 ⊢; omega
    case start => simp only [gotJ, List.count_cons, beq_iff_eq] at a1 ⊢; omega
    all_goals exact a1
  · have a1 := hi.J.sta j
    obtain ⟨r, g, g'⟩ := wsum_set (runJ j) hw
    rw [g] at a1
    cases hst <;> simp only [setW, g']
    case start | finish | panic => simp only [runJ, List.count_cons, beq_iff_eq] at a1 ⊢; omega
    all_goals exact a1
  · cases hst <;> exact { hi.S with }
  · have a1 := hi.P.han jv
    obtain ⟨r, g, g'⟩ := wsum_set (panJV jv) hw
    rw [g] at a1
    cases hst <;> simp only [setW, g']
    case panic | report | swallow => simp only [panJV, List.count_cons, beq_iff_eq] at a1 ⊢; omega
    all_goals exact a1
  · have a2 := hi.P.pan j
    cases hst
    case finish | panic => simp only [setW, List.map_cons, List.count_cons, beq_iff_eq] at a2 ⊢; omega
    all_goals exact a2

theorem inv_stepPool {c : Cfg} {s t : St} {a : Act} (h : stepPool c s a = some t) (hi : Inv c s) : Inv c t := by
  obtain ⟨u, hu, _, _, _, _, _, _, _, rfl⟩ := stepPool_cases h
  have hu : Inv c u := by
    rcases hu with rfl | ⟨m, rfl⟩ | ⟨keep, rfl⟩
    · exact hi
    · exact inv_genWorker m hi
    · refine ⟨{ hi.W with }, { hi.J with acc := fun j => ?_ }, { hi.S with }, { hi.P with }⟩
      have := hi.J.acc j
      rw [← List.take_append_drop keep s.queue, List.count_append] at this
      simp only [List.count_append]; omega
  exact ⟨{ hu.W with }, { hu.J with }, { hu.S with }, { hu.P with }⟩

theorem inv_stepSub {c : Cfg} {s t : St} {a : Act} (h : stepSub c s a = some t) (hi : Inv c s) : Inv c t := by
  have hS := hi.S
  rcases stepSub_cases h with ⟨sb, hpc, rfl⟩ | ⟨i, sb, hs, hst⟩
  · refine ⟨{ hi.W with }, { hi.J with }, ⟨fun j => ?_, fun j hj => ?_,
      forall_entries getElem?_append_new hS.tim (by simp [hpc]), forall_entries getElem?_append_new hS.tmo (by simp [hpc]),
      forall_entries getElem?_append_new hS.ful (by simp [hpc]), forall_entries getElem?_append_new hS.tok (by simp [hpc])⟩,
      { hi.P with }⟩
    · rw [accOf_append_new (by simp [isAcc, hpc])]; exact hS.acc j
    · obtain ⟨sb0, h1, h2⟩ := hS.rej j hj
      exact ⟨sb0, by rw [List.getElem?_append_left (lt_of_getElem? h1)]; exact h1, h2⟩
  · clear h
    refine ⟨?_, ⟨fun j => ?_, ?_⟩, ?_, ?_⟩
    · cases hst <;> exact { hi.W with }
    · have := hi.J.acc j
      cases hst
      case accept => simp only [setS, List.count_append, List.count_cons, List.count_nil]; omega
      all_goals exact this
    · cases hst <;> exact hi.J.sta
    · have t1 := hS.tim i sb hs
      have t3 := hS.ful i sb hs
      have t4 := hS.tok i sb hs
      cases hst
      case fail => sub_close i
      case deadline => exact invS_set hS hs rfl (.inl ⟨rfl, rfl⟩) (.inl ⟨rfl, id⟩) t1 (fun _ => rfl) t3 t4
      -- the rest: old and new program counter are known, so the six conditions of `invS_set` compute; `t1` gives
      -- `timed` for `wait` (dcheck → lcheck), the constructor's own guard gives it for `retryFirst` / `retry`
      all_goals refine invS_set hS hs rfl ?_ ?_ ?_ ?_ ?_ ?_ <;> simp [isAcc, isRej, setS, *]
    · cases hst <;> exact { hi.P with }

theorem step_cases {c : Cfg} {s t : St} {a : Act} (h : step c s a = some t) :
    stepSub c s a = some t ∨ stepPool c s a = some t ∨ stepW c s a = some t := by
  unfold step at h
  split at h <;> simp only [h, true_or, or_true]

theorem step_closed {c : Cfg} {s t : St} {a : Act} (h : step c s a = some t) : t.closed = s.closed ∨ t.closed = true := by
  rcases step_cases h with h | h | h
  · rcases stepSub_cases h with ⟨_, _, rfl⟩ | ⟨_, _, _, hst⟩
    · exact .inl rfl
    · cases hst <;> exact .inl rfl
  · obtain ⟨_, _, _, _, _, _, _, _, hcl, rfl⟩ := stepPool_cases h
    exact hcl
  · obtain ⟨_, _, _, hst⟩ := stepW_cases h
    cases hst <;> exact .inl rfl


theorem inv_init (c : Cfg) : Inv c init := by
  refine ⟨⟨rfl, rfl, Nat.zero_le _⟩, ⟨fun _ => rfl, fun _ => rfl⟩, ⟨fun _ => rfl, nofun, ?_, ?_, ?_, ?_⟩,
    ⟨fun _ => rfl, fun _ => Nat.le_refl _⟩⟩
  all_goals
    intro _ _ h
    simp [init] at h

theorem inv_reach {c : Cfg} {s : St} (h : Reach c s) : Inv c s := by
  induction h with
  | init => exact inv_init c
  | step _ hs ih =>
    rcases step_cases hs with h | h | h
    · exact inv_stepSub h ih
    · exact inv_stepPool h ih
    · exact inv_stepW h ih

end FpgoVerif.C09
