import FpgoVerif.Proofs.C03Basic
import FpgoVerif.Proofs.C03Maps
/-! C03 — each `Impl.*Loop` computes the corresponding list function (stated for arbitrary accumulators so that
    the induction goes through). -/
namespace FpgoVerif.C03
variable {α β κ ν : Type}

theorem dropEqLoop_spec [DecidableEq α] (num : α) (xs acc : List α) :
    Impl.dropEqLoop num xs acc = acc ++ xs.filter (fun v => v ≠ num) := by
  induction xs generalizing acc with
  | nil => simp [Impl.dropEqLoop]
  | cons x t ih => by_cases h : x = num <;> simp [Impl.dropEqLoop, h, ih]

theorem everyLoop_spec (f : α → Bool) (xs : List α) : Impl.everyLoop f xs = xs.all f := by
  induction xs with
  | nil => rfl
  | cons v t ih => cases h : f v <;> simp [Impl.everyLoop, h, ih]

theorem someLoop_spec (f : α → Bool) (xs : List α) : Impl.someLoop f xs = xs.any f := by
  induction xs with
  | nil => rfl
  | cons v t ih => cases h : f v <;> simp [Impl.someLoop, h, ih]

theorem partitionLoop_spec (p : α → Bool) (xs a b : List α) :
    Impl.partitionLoop p xs a b = [a ++ xs.filter p, b ++ xs.filter (fun x => !p x)] := by
  induction xs generalizing a b with
  | nil => simp [Impl.partitionLoop]
  | cons x t ih => cases h : p x <;> simp [Impl.partitionLoop, h, ih]

theorem isDistinctLoop_spec [DecidableEq α] (xs s : List α) (hs : s.Nodup) :
    Impl.isDistinctLoop xs s = decide (xs ++ s).Nodup := by
  induction xs generalizing s with
  | nil => simp [Impl.isDistinctLoop, hs]
  | cons v t ih =>
    rw [Impl.isDistinctLoop]
    by_cases h : v ∈ s
    · simp [h]
    · simp [h, ih (v :: s) (List.nodup_cons.mpr ⟨h, hs⟩), List.perm_middle.nodup_iff]

theorem maxLoop_spec (xs : List Int) (r : Int) : Impl.maxLoop xs r = xs.foldl max r := by
  induction xs generalizing r with
  | nil => rfl
  | cons v t ih =>
    rw [Impl.maxLoop, List.foldl_cons]
    split
    · rename_i h; rw [ih, Int.max_eq_right (Int.le_of_lt h)]
    · rename_i h; rw [ih, Int.max_eq_left (Int.not_lt.mp h)]

theorem minLoop_spec (xs : List Int) (r : Int) : Impl.minLoop xs r = xs.foldl min r := by
  induction xs generalizing r with
  | nil => rfl
  | cons v t ih =>
    rw [Impl.minLoop, List.foldl_cons]
    split
    · rename_i h; rw [ih, Int.min_eq_right (Int.le_of_lt h)]
    · rename_i h; rw [ih, Int.min_eq_left (Int.not_lt.mp h)]

theorem minMaxLoop_spec (xs : List Int) (lo hi : Int) (h : lo ≤ hi) :
    Impl.minMaxLoop xs lo hi = (xs.foldl min lo, xs.foldl max hi) := by
  induction xs generalizing lo hi with
  | nil => rfl
  | cons v t ih =>
    rw [Impl.minMaxLoop, List.foldl_cons, List.foldl_cons]
    split
    · rename_i h1
      rw [ih v hi (Int.le_trans (Int.le_of_lt h1) h), Int.min_eq_right (Int.le_of_lt h1),
        Int.max_eq_left (Int.le_trans (Int.le_of_lt h1) h)]
    · rename_i h1
      split
      · rename_i h2
        rw [ih lo v (Int.le_trans h (Int.le_of_lt h2)), Int.min_eq_left (Int.not_lt.mp h1),
          Int.max_eq_right (Int.le_of_lt h2)]
      · rename_i h2
        rw [ih lo hi h, Int.min_eq_left (Int.not_lt.mp h1), Int.max_eq_left (Int.not_lt.mp h2)]

/-- what `Spec.max` means: the result is an upper bound of the elements -/
theorem foldl_max_ge (xs : List Int) (r : Int) : r ≤ xs.foldl max r ∧ ∀ x ∈ xs, x ≤ xs.foldl max r := by
  induction xs generalizing r with
  | nil => simp
  | cons v t ih =>
    have h := ih (max r v)
    simp only [List.foldl_cons, List.mem_cons]
    refine ⟨by omega, ?_⟩
    rintro x (rfl | hx)
    · omega
    · exact h.2 x hx

theorem findPair_spec [DecidableEq κ] [DecidableEq ν] (k : κ) (v : ν) (m : List (κ × ν)) :
    Impl.findPair k v m = decide ((k, v) ∈ m) := by
  induction m with
  | nil => simp [Impl.findPair]
  | cons p t ih => simp [Impl.findPair, ih, Prod.ext_iff]

theorem isEqualMapLoop_spec [DecidableEq κ] [DecidableEq ν] (b a : List (κ × ν)) :
    Impl.isEqualMapLoop b a = decide (∀ p ∈ a, p ∈ b) := by
  induction a with
  | nil => simp [Impl.isEqualMapLoop]
  | cons p t ih =>
    obtain ⟨k, v⟩ := p
    by_cases h : (k, v) ∈ b
    · simp [Impl.isEqualMapLoop, findPair_spec, h, ih]
    · simp [Impl.isEqualMapLoop, findPair_spec, h]

theorem nodup_of_nodup_keys (m : List (κ × ν)) (h : (m.map (·.1)).Nodup) : m.Nodup :=
  h.of_map _ fun _ _ hab e => hab (e ▸ rfl)

/-- pigeonhole: a duplicate-free list contained in a list that is not longer is a rearrangement of it -/
theorem perm_of_nodup_subset [DecidableEq α] {a b : List α} (hn : a.Nodup) (hs : a ⊆ b)
    (hl : b.length ≤ a.length) : a.Perm b := by
  induction a generalizing b with
  | nil => rw [List.eq_nil_of_length_eq_zero (Nat.le_zero.mp hl)]
  | cons x t ih =>
    have hx : x ∈ b := hs List.mem_cons_self
    have hn' := List.nodup_cons.mp hn
    refine ((ih hn'.2 (fun z hz => (List.mem_erase_of_ne fun e : z = x => hn'.1 (e ▸ hz)).mpr
      (hs (List.mem_cons_of_mem _ hz))) ?_).cons x).trans (List.perm_cons_erase hx).symm
    rw [List.length_erase_of_mem hx]
    exact Nat.sub_le_of_le_add hl

theorem eraseRepsLoop_eq [DecidableEq α] (a : α) (as acc : List α) :
    List.eraseRepsBy.loop (fun x y => x == y) a as acc = acc.reverse ++ Spec.dedupe (a :: as) := by
  induction as generalizing a acc with
  | nil => simp [List.eraseRepsBy.loop, Spec.dedupe]
  | cons a' t ih =>
    by_cases h : a = a'
    · subst h
      simp [List.eraseRepsBy.loop, Spec.dedupe, ih]
    · simp [List.eraseRepsBy.loop, Spec.dedupe, ih, h, beq_eq_false_iff_ne.mpr h]

/-! The counted loops `for i := a; i < a+k; i++` read `l[i]`, `l[i+1]`, …: with `i + k = len l` what
    is still to be read is `l.drop i`. -/

theorem lt_of_add_succ {i k n : Nat} (h : i + (k + 1) = n) : i < n :=
  h ▸ Nat.lt_add_of_pos_right (Nat.succ_pos k)

theorem reduceLoop_spec (fn : β → α → β) (l : List α) (k i : Nat) (m : β) (h : i + k = l.length) :
    Impl.reduceLoop fn l k i m = .ok ((l.drop i).foldl fn m) := by
  induction k generalizing i m with
  | zero => rw [List.drop_eq_nil_of_le (i := i) (Nat.le_of_eq h.symm)]; rfl
  | succ k ih =>
    have hi := lt_of_add_succ h
    rw [Impl.reduceLoop, getN_lt hi, bind_ok, ih _ _ ((Nat.succ_add_eq_add_succ i k).trans h),
      List.drop_eq_getElem_cons hi, List.foldl_cons]

theorem isEqualLoop_spec [DecidableEq α] (l1 l2 : List α) (hl : l1.length = l2.length) (k i : Nat)
    (h : i + k = l1.length) :
    Impl.isEqualLoop l1 l2 k i = .ok (decide (l1.drop i = l2.drop i)) := by
  induction k generalizing i with
  | zero =>
    rw [List.drop_eq_nil_of_le (i := i) (Nat.le_of_eq h.symm),
      List.drop_eq_nil_of_le (i := i) (Nat.le_of_eq (hl ▸ h.symm))]; rfl
  | succ k ih =>
    have h1 := lt_of_add_succ h
    have h2 := lt_of_add_succ (h.trans hl)
    rw [Impl.isEqualLoop, getN_lt h1, getN_lt h2, List.drop_eq_getElem_cons h1, List.drop_eq_getElem_cons h2]
    by_cases hab : l1[i] = l2[i] <;>
      simp [-List.getElem_cons_drop, hab, ih (i + 1) ((Nat.succ_add_eq_add_succ i k).trans h)]

theorem zipLoop_spec [DecidableEq κ] (l1 : List κ) (l2 : List ν) (k i : Nat) (m : List (κ × ν))
    (h : ((l1.drop i).zip (l2.drop i)).length = k) :
    Impl.zipLoop l1 l2 k i m = .ok (copyInto ((l1.drop i).zip (l2.drop i)) m) := by
  induction k generalizing i m with
  | zero => rw [List.eq_nil_of_length_eq_zero h]; rfl
  | succ k ih =>
    obtain ⟨hi1, hi2⟩ : i < l1.length ∧ i < l2.length := by
      rw [List.length_zip, List.length_drop, List.length_drop] at h; omega
    rw [List.drop_eq_getElem_cons hi1, List.drop_eq_getElem_cons hi2] at h ⊢
    rw [Impl.zipLoop, getN_lt hi1, getN_lt hi2]
    exact ih (i + 1) _ (Nat.succ.inj h)

theorem dedupeLoop_spec [DecidableEq α] (l : List α) (k i : Nat) (acc : List α) (h : i + k = l.length) :
    Impl.dedupeLoop l l.length k i acc = .ok (acc ++ Spec.dedupe (l.drop i)) := by
  induction k generalizing i acc with
  | zero => rw [List.drop_eq_nil_of_le (i := i) (Nat.le_of_eq h.symm)]; simp [Impl.dedupeLoop, Spec.dedupe]
  | succ k ih =>
    have hi := lt_of_add_succ h
    have ih' := fun acc => ih (i + 1) acc ((Nat.succ_add_eq_add_succ i k).trans h)
    rw [Impl.dedupeLoop, List.drop_eq_getElem_cons hi]
    by_cases h1 : i + 1 < l.length
    · rw [if_pos h1, getN_lt hi, getN_lt h1, List.drop_eq_getElem_cons h1]
      rw [List.drop_eq_getElem_cons h1] at ih'
      by_cases hab : l[i] = l[i + 1] <;> simp [-List.getElem_cons_drop, hab, Spec.dedupe, ih']
    · rw [List.drop_eq_nil_of_le (Nat.le_of_not_lt h1)] at ih' ⊢
      simp [h1, getN_lt hi, Spec.dedupe, ih']

/-! Loops that fill a preallocated `make([]T, n)`: the buffer is `pre ++ pad` (what has been written, then
    the untouched padding) and the write index is `len pre`. -/

theorem setN_push (pre : List α) {pad : List α} (v : α) {n : Nat} (h : n + 1 ≤ pad.length) :
    setN (pre ++ pad) pre.length v = .ok ((pre ++ [v]) ++ pad.tail) := by
  cases pad with
  | nil => exact absurd h (Nat.not_succ_le_zero n)
  | cons p pad' => rw [setN_append_cons, List.append_assoc]; rfl

theorem setI_push (pre : List α) {pad : List α} (v : α) {n : Nat} (h : n + 1 ≤ pad.length) :
    setI (pre ++ pad) (pre.length : Int) v = .ok ((pre ++ [v]) ++ pad.tail) := by
  rw [setI, if_neg (Int.not_lt.mpr (Int.natCast_nonneg _)), Int.toNat_natCast, setN_push _ _ h]

theorem reslice_prefix (a b : List α) :
    (Sl.mk (a ++ b) []).reslice 0 (a.length : Int) = .ok ⟨a, b⟩ := by
  rw [Sl.reslice, if_pos ⟨Int.le_refl 0, Int.natCast_nonneg _, by simp [Sl.cap]; omega⟩]
  simp

theorem copyFrom_spec (l : List α) (k i : Nat) (done pad : List α) (h : i + k = l.length) (hp : k ≤ pad.length) :
    Impl.copyFrom l k i done.length (done ++ pad) = .ok (done ++ l.drop i ++ pad.drop k) := by
  induction k generalizing i done pad with
  | zero => rw [List.drop_eq_nil_of_le (i := i) (Nat.le_of_eq h.symm)]; simp [Impl.copyFrom]
  | succ k ih =>
    have hi := lt_of_add_succ h
    have := ih (i + 1) (done ++ [l[i]]) pad.tail ((Nat.succ_add_eq_add_succ i k).trans h)
      (List.length_tail ▸ Nat.le_sub_one_of_lt hp)
    rw [List.length_append, List.length_singleton] at this
    rw [Impl.copyFrom, getN_lt hi, bind_ok, setN_push done _ hp,
      bind_ok, this, List.drop_eq_getElem_cons hi]
    simp

theorem mkI_natCast (n : Nat) (z : α) : mkI (n : Int) z = .ok (List.replicate n z) := by
  rw [mkI, if_neg (Int.not_lt.mpr (Int.natCast_nonneg n)), Int.toNat_natCast]

theorem getI_natCast (l : List α) (n : Nat) : getI l (n : Int) = getN l n := by
  rw [getI, if_neg (Int.not_lt.mpr (Int.natCast_nonneg n)), Int.toNat_natCast]

theorem dropWhileLoop_spec (z : α) (f : α → Bool) (pre rest : List α) :
    Impl.dropWhileLoop z f (pre ++ rest) rest pre.length = .ok (rest.dropWhile f) := by
  induction rest generalizing pre with
  | nil => rfl
  | cons v t ih =>
    rw [Impl.dropWhileLoop, List.dropWhile_cons]
    cases hv : f v
    · have hc := copyFrom_spec (pre ++ v :: t) (t.length + 1) pre.length [] (List.replicate (t.length + 1) z)
        (by simp) (by simp)
      simp only [Bool.not_false, if_true, Bool.false_eq_true, if_false]
      rw [List.length_append, List.length_cons, Nat.add_sub_cancel_left, Int.natCast_add, Int.add_comm,
        Int.add_sub_cancel, mkI_natCast, bind_ok]
      simpa using hc
    · have := ih (pre ++ [v])
      rw [List.length_append, List.length_singleton, List.append_assoc] at this
      simpa using this

theorem reverseLoop_spec (l : List α) (k : Nat) (done pad : List α) (h : done.length + k = l.length)
    (hp : k ≤ pad.length) :
    Impl.reverseLoop l k done.length (done ++ pad) = .ok (done ++ (l.take k).reverse ++ pad.drop k) := by
  induction k generalizing done pad with
  | zero => simp [Impl.reverseLoop]
  | succ k ih =>
    have hk : k < l.length := h ▸ Nat.lt_add_left _ (Nat.lt_succ_self k)
    have := ih (done ++ [l[k]]) pad.tail
      (by rw [List.length_append, List.length_singleton]; exact (Nat.succ_add_eq_add_succ _ k).trans h)
      (List.length_tail ▸ Nat.le_sub_one_of_lt hp)
    rw [List.length_append, List.length_singleton] at this
    rw [Impl.reverseLoop, show (l.length : Int) - ((done.length : Int) + 1) = (k : Int) by omega, getI_natCast,
      getN_lt hk, bind_ok, setN_push done _ hp,
      bind_ok, this, List.take_succ_eq_append_getElem hk, List.reverse_append]
    simp

/-- `out` names what the loop keeps, so that the statement spells it once; callers pass `_ rfl` -/
theorem filterLoop_spec (fn : α → Nat → Bool) (xs : List α) (i : Nat) (pre pad : List α)
    (h : xs.length ≤ pad.length) (out : List α)
    (ho : out = ((xs.zipIdx i).filter (fun xi => fn xi.1 xi.2)).map (·.1)) :
    Impl.filterLoop fn xs i (pre.length : Int) (pre ++ pad)
      = .ok (((pre.length + out.length : Nat) : Int), pre ++ out ++ pad.drop out.length) := by
  subst ho
  induction xs generalizing i pre pad with
  | nil => simp [Impl.filterLoop]
  | cons v t ih =>
    by_cases hv : fn v i = true
    · have := ih (i + 1) (pre ++ [v]) pad.tail (List.length_tail ▸ Nat.le_sub_one_of_lt h)
      rw [List.length_append, List.length_singleton, Int.natCast_add] at this
      simpa [Impl.filterLoop, hv, setI_push pre v h, Nat.add_assoc, Nat.add_comm 1] using this
    · simpa [Impl.filterLoop, hv] using ih (i + 1) pre pad (Nat.le_of_succ_le h)

theorem spec_filter_length (fn : α → Nat → Bool) (xs : List α) : (Spec.filter fn xs).length ≤ xs.length := by
  simpa [Spec.filter] using List.length_filter_le (fun xi : α × Nat => fn xi.1 xi.2) xs.zipIdx

theorem totalLenLoop_spec (slices : List (Option (List α))) (n : Nat) :
    Impl.totalLenLoop slices n = n + (Spec.flatten slices).length := by
  induction slices generalizing n with
  | nil => rfl
  | cons s rest ih => cases s <;> simp [Spec.flatten, Impl.totalLenLoop, ih, Nat.add_assoc]

theorem concatLoop_spec (slices : List (Option (List α))) (pre pad : List α)
    (h : (Spec.flatten slices).length ≤ pad.length) :
    Impl.concatLoop slices pre.length (pre ++ pad)
      = .ok (pre.length + (Spec.flatten slices).length,
             pre ++ Spec.flatten slices ++ pad.drop (Spec.flatten slices).length) := by
  induction slices generalizing pre pad with
  | nil => simp [Impl.concatLoop, Spec.flatten]
  | cons s rest ih =>
    cases s with
    | none => simpa [Impl.concatLoop, Spec.flatten] using ih pre pad h
    | some t =>
      simp only [Spec.flatten, List.map_cons, Option.getD_some, List.flatten_cons, List.length_append] at h ih ⊢
      have := ih (pre ++ t) (pad.drop t.length) (by rw [List.length_drop]; omega)
      rw [List.length_append] at this
      rw [Impl.concatLoop, fillLoop_push _ t pre pad (by omega), map_zipIdx_fst (fun x => x), List.map_id', bind_ok,
        this]
      simp [Nat.add_assoc, Nat.add_comm t.length]

/-- what the `map[K]bool`-as-set loops of `Distinct` and `UniqBy` keep (`seen`: the set) -/
def firsts [DecidableEq κ] (g : α → κ) : List κ → List α → List α
  | _, [] => []
  | seen, v :: t => if g v ∈ seen then firsts g seen t else v :: firsts g (g v :: seen) t

theorem firsts_eq [DecidableEq κ] (g : α → κ) (seen : List κ) (xs : List α) :
    firsts g seen xs
      = (xs.filter (fun x => decide (g x ∉ seen))).eraseDupsBy (fun a b => decide (g a = g b)) := by
  induction xs generalizing seen with
  | nil => rfl
  | cons v t ih =>
    by_cases h : g v ∈ seen
    · simp [firsts, h, ih]
    · simp only [firsts, ih, List.filter_cons, h, not_false_eq_true, decide_true, if_true, if_false,
        List.eraseDupsBy_cons, List.filter_filter]
      congr 2
      apply List.filter_congr
      intro x _
      by_cases hx : g x = g v <;> simp [hx]

theorem firsts_nil_seen [DecidableEq κ] (g : α → κ) (xs : List α) :
    firsts g [] xs = xs.eraseDupsBy (fun a b => decide (g a = g b)) := by
  rw [firsts_eq, List.filter_eq_self.mpr (fun _ _ => by simp)]

theorem length_firsts_le [DecidableEq κ] (g : α → κ) (seen : List κ) (xs : List α) :
    (firsts g seen xs).length ≤ xs.length := by
  induction xs generalizing seen with
  | nil => exact Nat.le_refl _
  | cons v t ih =>
    rw [firsts]
    split
    · exact Nat.le_succ_of_le (ih _)
    · exact Nat.succ_le_succ (ih _)

theorem uniqByLoop_spec [DecidableEq κ] (g : α → κ) (xs : List α) (ids : List κ) (acc : List α) :
    Impl.uniqByLoop g xs ids acc = acc ++ firsts g ids xs := by
  induction xs generalizing ids acc with
  | nil => simp [Impl.uniqByLoop, firsts]
  | cons v t ih => by_cases h : g v ∈ ids <;> simp [Impl.uniqByLoop, firsts, h, ih]

theorem distinctLoop_spec [DecidableEq α] (xs s pre pad : List α) (h : xs.length ≤ pad.length) :
    Impl.distinctLoop xs s pre.length (pre ++ pad)
      = .ok (pre.length + (firsts id s xs).length, pre ++ firsts id s xs ++ pad.drop (firsts id s xs).length) := by
  induction xs generalizing s pre pad with
  | nil => simp [Impl.distinctLoop, firsts]
  | cons v t ih =>
    by_cases hv : v ∈ s
    · simpa [Impl.distinctLoop, firsts, hv] using ih s pre pad (Nat.le_of_succ_le h)
    · have := ih (v :: s) (pre ++ [v]) pad.tail (List.length_tail ▸ Nat.le_sub_one_of_lt h)
      rw [List.length_append, List.length_singleton] at this
      simpa [Impl.distinctLoop, firsts, hv, setN_push pre v h, Nat.add_assoc, Nat.add_comm 1] using this

theorem chunks_small (k fuel : Nat) (xs : List α) (h0 : xs ≠ []) (hk : xs.length ≤ k) (hf : xs.length ≤ fuel) :
    Spec.chunks k fuel xs = [xs] := by
  obtain ⟨f, rfl⟩ : ∃ f, fuel = f + 1 := ⟨fuel - 1, (Nat.sub_add_cancel (Nat.le_trans (List.length_pos_iff.mpr h0) hf)).symm⟩
  rw [Spec.chunks, if_neg (by simpa using h0), List.take_of_length_le hk, List.drop_eq_nil_of_le hk]
  cases f <;> rfl

theorem chunks_full (k fuel : Nat) (hk : 1 ≤ k) (cur rest : List α) (hc : cur.length = k) :
    Spec.chunks k (fuel + 1) (cur ++ rest) = cur :: Spec.chunks k fuel rest := by
  have : cur ≠ [] := List.ne_nil_of_length_pos (hc ▸ hk)
  rw [Spec.chunks, if_neg (by simpa using fun h => absurd h this), List.take_left' hc, List.drop_left' hc]

/-- Invariant of `SplitEvery`'s loop: the groups closed so far, then the chunks of the open group followed
    by the unread elements.  The flush `result = append(result, currentGroup)` of the last iteration is
    what the `if` on the left supplies when nothing is left to read. -/
theorem splitLoop_spec (k : Nat) (hk : 1 ≤ k) (n : Nat) (rest : List α) (i : Nat) (result : List (List α))
    (cur : List α) (fuel : Nat) (hi : i + rest.length = n) (hc : cur.length ≤ k) (h0 : cur ++ rest ≠ [])
    (hf : (cur ++ rest).length ≤ fuel) :
    Impl.splitLoop (k : Int) n rest i (if i ≥ n then result ++ [cur] else result) cur
      = result ++ Spec.chunks k fuel (cur ++ rest) := by
  induction rest generalizing i result cur fuel with
  | nil =>
    rw [List.append_nil] at h0 hf ⊢
    rw [if_pos (show i ≥ n from Nat.le_of_eq hi.symm), chunks_small k fuel cur h0 hc hf]; rfl
  | cons v t ih =>
    have hi' : i + 1 + t.length = n := (Nat.add_right_comm i 1 _).trans hi
    rw [if_neg (Nat.not_le.mpr (hi ▸ Nat.lt_add_of_pos_right (Nat.succ_pos _))), Impl.splitLoop]
    by_cases hlt : cur.length < k
    · simp only [if_pos (Int.ofNat_lt.mpr hlt)]
      rw [ih (i + 1) result (cur ++ [v]) fuel hi' (by simpa using Nat.succ_le_of_lt hlt) (by simp) (by simpa using hf)]
      simp
    · have hck : cur.length = k := Nat.le_antisymm hc (Nat.le_of_not_lt hlt)
      obtain ⟨f, rfl⟩ : ∃ f, fuel = f + 1 := ⟨fuel - 1, by simp at hf; omega⟩
      simp only [if_neg (fun h => hlt (Int.ofNat_lt.mp h))]
      rw [ih (i + 1) (result ++ [cur]) [v] f hi' (by simpa using hk) (by simp) (by simp at hf ⊢; omega),
        chunks_full k f hk cur (v :: t) hck]
      simp

theorem sliceToMapLoop_spec [DecidableEq κ] (d : ν) (xs : List κ) (m : List (κ × ν)) (k : κ) :
    mget k (xs.foldl (fun resultMap key => if !(mhas key resultMap) then mset resultMap key d else resultMap) m)
      = match mget k m with | some w => some w | none => if k ∈ xs then some d else none := by
  induction xs generalizing m with
  | nil => cases h : mget k m <;> simp [h]
  | cons x t ih =>
    rw [List.foldl_cons, ih]
    cases hx : mhas x m
    · simp only [Bool.not_false, if_true, mget_mset]
      by_cases hk : x = k
      · subst hk; simp [(mget_eq_none_iff x m).mpr hx]
      · cases mget k m <;> simp [hk, Ne.symm hk]
    · simp only [Bool.not_true, Bool.false_eq_true, if_false]
      cases hm : mget k m
      · have : k ≠ x := fun e => by rw [← e, (mget_eq_none_iff k m).mp hm] at hx; cases hx
        simp [this]
      · rfl

theorem groupByLoop_spec [DecidableEq κ] (g : α → κ) (xs : List α) (m : List (κ × List α)) (k : κ) :
    mget k (xs.foldl (fun result v => mset result (g v) ((mget (g v) result).getD [] ++ [v])) m)
      = if k ∈ xs.map g then some ((mget k m).getD [] ++ xs.filter (fun y => g y = k)) else mget k m := by
  induction xs generalizing m with
  | nil => rfl
  | cons x t ih =>
    rw [List.foldl_cons, ih, mget_mset]
    simp only [List.map_cons, List.mem_cons, List.filter_cons, List.mem_map, eq_comm (a := k)]
    by_cases hk : g x = k <;> by_cases ht : ∃ a, a ∈ t ∧ g a = k <;> simp [hk, ht]
    exact fun a ha e => ht ⟨a, ha, e⟩

theorem mget_map_key [DecidableEq κ] (g : α → κ) (F : κ → ν) (ys : List α) (k : κ) :
    mget k (ys.map (fun x => (g x, F (g x)))) = if k ∈ ys.map g then some (F k) else none := by
  induction ys with
  | nil => rfl
  | cons y t ih =>
    simp only [List.map_cons, mget, ih, List.mem_cons, eq_comm (a := k)]
    by_cases ht : k ∈ t.map g <;> by_cases hy : g y = k <;> simp [ht, hy]

theorem Impl.wrap64_id (x : Int) (h1 : -9223372036854775808 ≤ x) (h2 : x ≤ 9223372036854775807) : Impl.wrap64 x = x := by
  unfold Impl.wrap64; omega

theorem rangeLoop_spec (hi hop : Int) (hhop : 0 < hop) (hb : hi + hop ≤ 9223372036854775807)
    (n : Nat) (v : Int) (acc : List Int) (hv : -9223372036854775808 ≤ v) (hn : (hi - v).toNat ≤ n) :
    Impl.rangeLoop hi hop (n + 1) v acc
      = .ok (acc ++ ((List.range n).map (fun (i : Nat) => v + (i : Int) * hop)).filter (fun x => x < hi)) := by
  induction n generalizing v acc with
  | zero =>
    have : ¬ v < hi := by omega
    simp [Impl.rangeLoop, this]
  | succ n ih =>
    rw [Impl.rangeLoop]
    by_cases hlt : v < hi
    · have hstep : ∀ i : Nat, v + ((i : Int) + 1) * hop = v + hop + (i : Int) * hop := fun i => by
        rw [Int.add_mul, Int.one_mul]; omega
      -- no wrap-around: `v < hi` and `hi + hop` fits
      rw [if_pos hlt, Impl.wrap64_id _ (by omega) (by omega), ih (v + hop) _ (by omega) (by omega),
        List.range_succ_eq_map, List.map_cons, List.map_map]
      simp [Function.comp_def, hstep, hlt]
    · have hall : ((List.range (n + 1)).map (fun (i : Nat) => v + (i : Int) * hop)).filter (fun x => x < hi) = [] := by
        rw [List.filter_eq_nil_iff]
        intro x hx
        obtain ⟨i, _, rfl⟩ := List.mem_map.mp hx
        have : 0 ≤ (i : Int) * hop := Int.mul_nonneg (Int.natCast_nonneg i) (Int.le_of_lt hhop)
        simp; omega
      rw [if_neg hlt, hall, List.append_nil]

theorem rangeFrom_spec (lo hi hop : Int) (hhop : 0 < hop) (hb : hi + hop ≤ 9223372036854775807)
    (hlo : -9223372036854775808 ≤ lo) : Impl.rangeFrom lo hi hop = .ok (Spec.range lo hi [hop]) := by
  simp only [Impl.rangeFrom, Spec.range, List.headD_cons, Int.not_le.mpr hhop, false_or]
  split
  · rfl
  · rw [rangeLoop_spec hi hop hhop hb _ lo [] hlo (Nat.le_refl _), List.nil_append]

end FpgoVerif.C03
