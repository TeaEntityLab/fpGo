import FpgoVerif.Model.C20
/-! Pattern-matching part of C20: the loops of `ProductType/SumType.Matches`
    against their Spec, Go interface equality for comparable pattern values, `preprocess = view`. -/

namespace FpgoVerif.C20

theorem map_beq_of_length_ne (vs : List Atom) (ks : List Nat) (h : vs.length ≠ ks.length) :
    (vs.map Atom.justKind == ks) = false := by
  cases hb : (vs.map Atom.justKind == ks) with
  | false => rfl
  | true =>
    have := congrArg List.length (eq_of_beq hb)
    simp at this
    exact absurd this h

/-- the index/accumulator loop of `ProductType.Matches`, started at offset `pre.length` -/
theorem prodLoop_eq (vs : List Atom) : ∀ (ks' pre : List Nat) (acc : Bool), vs.length = ks'.length →
    prodLoop (pre ++ ks') vs pre.length acc = (acc && (vs.map Atom.justKind == ks')) := by
  induction vs with
  | nil =>
    intro ks' pre acc h
    have : ks' = [] := List.length_eq_zero_iff.mp (by simpa using h.symm)
    subst this; simp [prodLoop]
  | cons v vs ih =>
    intro ks' pre acc h
    cases ks' with
    | nil => simp at h
    | cons k ks'' =>
      have hidx : (pre ++ k :: ks'')[pre.length]? = some k := by simp
      have hre : pre ++ k :: ks'' = (pre ++ [k]) ++ ks'' := by simp
      have hlen : pre.length + 1 = (pre ++ [k]).length := by simp
      simp only [prodLoop, hidx]
      rw [hre, hlen, ih ks'' (pre ++ [k]) _ (by simpa using h)]
      have hk : (some k == some v.justKind) = (v.justKind == k) := by rw [Option.some_beq_some, BEq.comm]
      rw [hk]
      simp [List.map_cons, Bool.and_assoc]

theorem prodLoop_spec (ks : List Nat) (vs : List Atom) (h : vs.length = ks.length) :
    prodLoop ks vs 0 true = (vs.map Atom.justKind == ks) := by
  simpa using prodLoop_eq vs ks [] true h

mutual
theorem matches_eq : ∀ (t : CompType) (vs : List Atom), t.matches vs = Spec.typeMatches t vs
  | .sum ts, vs => by
    rw [CompType.matches, Spec.typeMatches]; exact matchesAny_eq ts vs
  | .prod ks, vs => by
    rw [CompType.matches, Spec.typeMatches]
    by_cases h : vs.length = ks.length
    · simp only [h, bne_self_eq_false, Bool.false_eq_true, if_false]; exact prodLoop_spec ks vs h
    · have : (vs.length != ks.length) = true := by simp [h]
      simp only [this, if_true]; exact (map_beq_of_length_ne vs ks h).symm
  | .nilT, vs => by
    rcases vs with _ | ⟨v, _ | ⟨w, rest⟩⟩ <;> simp [CompType.matches, Spec.typeMatches]
theorem matchesAny_eq : ∀ (ts : List CompType) (vs : List Atom), CompType.matchesAny ts vs = Spec.anyMatches ts vs
  | [], vs => by rw [CompType.matchesAny, Spec.anyMatches]
  | t :: ts, vs => by
    rw [CompType.matchesAny, Spec.anyMatches, matches_eq t vs, matchesAny_eq ts vs]
    cases Spec.typeMatches t vs <;> simp
end

/-- Go `==` with a comparable (or nil) left operand never panics and is "same dynamic type and equal" -/
theorem goEq_comparable (pv v : GoVal) (h : (Pat.equal pv).inScope = true) :
    goEq pv v = .ok (Spec.equalTo pv v) := by
  unfold goEq Spec.equalTo
  simp only [Pat.inScope] at h
  cases hp : pv.ty with
  | none => cases hv : v.ty <;> simp
  | some ta =>
    simp only [hp] at h
    cases hv : v.ty with
    | none => simp
    | some tb =>
      by_cases hne : ta = tb
      · subst hne; simp [h]
      · simp [hne]

theorem preprocess_eq_view (v : GoVal) : preprocess v = Spec.view v := by
  cases v with
  | atom a => unfold preprocess Spec.view; split <;> rfl
  | comp objs => unfold preprocess Spec.view; split <;> rfl
  | compptr a objs =>
    have : (GoVal.compptr a objs).justIsKind kPtr = true := by
      simp [GoVal.justIsKind, GoVal.isNil, GoVal.valueKind, GoVal.ty, Ty.kind]
    simp [preprocess, Spec.view, this]

theorem text_none_eq (v : GoVal) : (v.isNil || v.valueKind != kString) = v.text.isNone := by
  cases v with
  | atom a =>
    cases a <;> simp [GoVal.isNil, Atom.isNil, GoVal.valueKind, GoVal.ty, Atom.ty, Ty.kind, GoVal.text,
      kString, kPtr, kStruct, kSlice, kMap, kInvalid]
    -- what remains are the int and float atoms: their kind number (2..14) is not `kString` = 24
    all_goals (split <;> omega)
  | comp objs => simp [GoVal.isNil, GoVal.valueKind, GoVal.ty, Ty.kind, GoVal.text, kString, kStruct]
  | compptr a objs => simp [GoVal.isNil, GoVal.valueKind, GoVal.ty, Ty.kind, GoVal.text, kString, kPtr]

end FpgoVerif.C20
