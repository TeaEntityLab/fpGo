import FpgoVerif.Proofs.C16Inv
/-! Termination: every step decreases `measure`; every reachable non-terminal state has an enabled step. -/
namespace FpgoVerif.C16

variable {α β : Type} {l : List α} {f : α → β} {w cap : Nat} {s s' : St α β}

theorem measure_step (hs : Step l f cap s s') : measure l.length s' < measure l.length s := by
  cases hs with
  | feed v _ hv _ =>
    have := (List.getElem?_eq_some_iff.mp hv).1
    simp only [measure, List.length_append, List.length_cons, List.length_nil]; omega
  | closeJobs hc _ | closeResult _ hc | finish _ _ hc =>
    simp only [measure, hc, Bool.false_eq_true, if_true, if_false, Nat.add_lt_add_iff_right]
    exact Nat.lt_succ_self _
  | sendClosed _ _ _ _ _ _ hp =>
    simp only [measure, hp, Bool.false_eq_true, if_true, if_false]; exact Nat.lt_succ_self _
  | collect e rest hr _ => simp only [measure, hr, List.length_cons]; omega
  | take pre post i v rest hw hj =>
    simp only [measure, hw, hj, List.countP_append, List.countP_cons, List.length_cons, WS.isComputing, WS.isSending, WS.isDone,
      Bool.not_false, Bool.false_eq_true, if_true, if_false]; omega
  | exit pre post hw _ _ | compute pre post i v hw | sendBuf pre post i r hw _ _ | handoff pre post i r hw _ _ _ =>
    simp only [measure, hw, List.countP_append, List.countP_cons, List.length_append, List.length_cons, List.length_nil,
      WS.isComputing, WS.isSending, WS.isDone, Bool.not_true, Bool.not_false, Bool.false_eq_true, if_true, if_false]; omega

/-- no deadlock, for every number of workers, every channel capacity (0 included) and the empty list too -/
theorem progress (h : Inv l f w cap s) (hd : s.collectorDone = false) : ∃ s', Step l f cap s s' := by
  by_cases hex : ∃ x ∈ s.workers, x.isDone = false
  · obtain ⟨x, hx, hnd⟩ := hex
    obtain ⟨pre, post, hw⟩ := List.append_of_mem hx
    cases x with
    | done => cases hnd
    | computing i v => exact ⟨_, .compute s pre post i v hw⟩
    | idle =>
      -- a job, or the closed empty channel, or the feeder moves
      cases hj : s.chJobs with
      | cons e rest => exact ⟨_, .take s pre post e.1 e.2 rest hw hj⟩
      | nil =>
        cases hc : s.jobsClosed with
        | true => exact ⟨_, .exit s pre post hw hj hc⟩
        | false =>
          by_cases hf : s.fed = l.length
          · exact ⟨_, .closeJobs s hc hf⟩
          · have hlt : s.fed < l.length := Nat.lt_of_le_of_ne h.fed_le hf
            exact ⟨_, .feed s l[s.fed] hc (List.getElem?_eq_getElem hlt) (by rw [hj]; exact Nat.zero_lt_of_lt hlt)⟩
    | sending i r =>
      -- the collector takes the result (directly or after draining the buffer)
      cases hr : s.chResult with
      | cons e rest => exact ⟨_, .collect s e rest hr hd⟩
      | nil => exact ⟨_, .handoff s pre post i r hw (open_of_notDone h hw rfl) hr hd⟩
  · -- every worker has left: drain chResult, close it, finish
    have hall : ∀ x ∈ s.workers, x.isDone = true := fun x hx => by
      cases hx' : x.isDone with
      | true => rfl
      | false => exact absurd ⟨x, hx, hx'⟩ hex
    cases hr : s.chResult with
    | cons e rest => exact ⟨_, .collect s e rest hr hd⟩
    | nil =>
      cases hc : s.resultClosed with
      | false => exact ⟨_, .closeResult s hall hc⟩
      | true => exact ⟨_, .finish s hr hc hd⟩

theorem reach_head {a b c : St α β} (hs : Step l f cap a b) (h2 : Reach l f cap b c) : Reach l f cap a c := by
  induction h2 with
  | refl => exact .step (.refl a) hs
  | step _ hs' ih => exact .step ih hs'

theorem can_finish : ∀ (k : Nat) (s : St α β), measure l.length s < k → Inv l f w cap s →
    ∃ t, Reach l f cap s t ∧ t.collectorDone = true
  | 0, _, hm, _ => nomatch hm
  | k + 1, s, hm, h => by
    cases hd : s.collectorDone with
    | true => exact ⟨s, .refl s, hd⟩
    | false =>
      obtain ⟨s', hs⟩ := progress h hd
      obtain ⟨t, ht, htd⟩ := can_finish k s' (by have := measure_step hs; omega) (inv_step h hs)
      exact ⟨t, reach_head hs ht, htd⟩

inductive Run {α β : Type} (l : List α) (f : α → β) (cap : Nat) : Nat → St α β → St α β → Prop
  | nil (s : St α β) : Run l f cap 0 s s
  | cons {k : Nat} {s t u : St α β} : Step l f cap s t → Run l f cap k t u → Run l f cap (k + 1) s u

theorem run_bound {k : Nat} {a b : St α β} (hr : Run l f cap k a b) : measure l.length b + k ≤ measure l.length a := by
  induction hr with
  | nil => exact Nat.le_refl _
  | cons hs _ ih => have := measure_step hs; omega

end FpgoVerif.C16
