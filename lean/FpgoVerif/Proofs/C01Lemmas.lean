import FpgoVerif.Model.C01Maybe
/-! C01 — the closed form `built` of what the constructors return and what each observer yields on it; the
    hypotheses of the `Clone` / totality theorems (`HasTy`, `PointeeOK`, `WF`); the equations of `CloneTo` and `ToPtr`
    case by case. -/

namespace FpgoVerif.C01
open Spec

/-- `fpgo.IsNil` never panics (its `Value.IsNil` call is guarded by `Kind == Ptr`) and decides `absent` -/
theorem fpIsNil_eq (v : GoVal) : fpIsNil v = .ok (absent v) := by
  cases v with
  | ptr t a => cases a <;> rfl
  | _ => rfl

theorem justGenerics_eq (T : Ty) (v : GoVal) :
    justGenerics T v = .ok (.some T v (absent v) (!absent v)) := by
  simp only [justGenerics, fpIsNil_eq]; rfl

theorem just_eq (v : GoVal) :
    just v = .ok (if absent v then .none else .some .any v false true) := by
  simp only [just, fpIsNil_eq, justGenerics_eq]
  cases absent v <;> rfl

def built (c : Ctor) (v : GoVal) : MaybeV :=
  match c with
  | .just => if absent v then .none else .some .any v false true
  | .generics T => .some T v (absent v) (!absent v)

theorem mk_eq (c : Ctor) (v : GoVal) : mk c v = .ok (built c v) := by
  cases c
  · exact just_eq v
  · exact justGenerics_eq _ v

section built
variable (c : Ctor) (v : GoVal)

/-- Unless `Maybe.Just` collapses an absent `v` to `None`, both constructors build the same struct. -/
theorem built_cases : built c v = .none ∨ built c v = .some c.param v (absent v) (!absent v) := by
  unfold built; cases c
  · cases absent v
    · exact .inr rfl
    · exact .inl rfl
  · exact .inr rfl

variable {c v} in
theorem built_present (h : absent v = false) : built c v = .some c.param v false true := by
  unfold built; rw [h]; cases c <;> rfl

/-! What the observers yield on `built c v`: each is decided by `absent v` alone, for both constructors (`None` and
    `someDef{v, true, false}` are indistinguishable). -/

theorem isNil_built : (built c v).isNil = absent v := by
  unfold built; cases c <;> cases absent v <;> rfl

theorem isPresent_built : (built c v).isPresent = !absent v := by
  unfold built; cases c <;> cases absent v <;> rfl

theorem or_built (d : GoVal) : (built c v).or d = if absent v then d else v := by
  unfold built; cases c <;> cases absent v <;> rfl

theorem letRun_built {σ} (run : σ → σ) (s : σ) : (built c v).letRun run s = if absent v then s else run s := by
  unfold built; cases c <;> cases absent v <;> rfl

theorem unwrapInterface_built : (built c v).unwrapInterface = if absent v then .nil else v := by
  unfold built; cases c <;> cases absent v <;> rfl

theorem type_built : (built c v).type = if absent v then none else typeOf? v := by
  unfold built; cases c <;> cases absent v <;> rfl

/-- a conversion that `noneDef` does not override is promoted from the embedded struct, whose `isNil` is true -/
theorem conv_none (cv : String) : MaybeV.none.conv cv = .errNil := by
  show (if noneOverrides.contains cv then ConvRes.errNil else someConv cv true) = _
  split <;> rfl

theorem conv_built (cv : String) : (built c v).conv cv = if absent v then .errNil else .other := by
  unfold built; cases c <;> cases absent v <;> first | rfl | exact conv_none cv

variable {c v} in
theorem toStr_built_absent (hab : absent v = true) (h : List GoVal) :
    (built c v).toStr h = some (hexOfAscii "<nil>") := by
  unfold built; rw [hab]; cases c <;> rfl

theorem param_built : (built c v).param = c.param := by
  unfold built; cases c <;> cases absent v <;> rfl

theorem ref_built : (built c v).ref = wrapped c v := by
  unfold built wrapped; cases c <;> cases absent v <;> rfl

theorem absent_wrapped : absent (wrapped c v) = absent v := by
  unfold wrapped; cases c <;> cases h : absent v <;> first | rfl | exact h

theorem built_wrapped : built c (wrapped c v) = built c v := by
  cases c with
  | just => unfold wrapped built; cases h : absent v <;> simp only [h, if_true, if_false, Bool.false_eq_true] <;> rfl
  | generics T => rfl

end built

theorem flatMap_eq {α} (m : MaybeV) (f : GoVal → α) : m.flatMap f = f m.ref := by
  cases m <;> rfl

theorem toMaybe_present (T : Ty) (r : GoVal) (p : Bool) :
    (MaybeV.some T r false p).toMaybe = (innerMaybe? T r).getD (.some T r false p) := by
  cases r with
  | some T' r' n' p' => by_cases hT : T' = T <;> simp [MaybeV.toMaybe, innerMaybe?, typeOf?, implementsTy, asMaybe?, hT]
  | none => by_cases hT : T = .any <;> simp [MaybeV.toMaybe, innerMaybe?, typeOf?, implementsTy, asMaybe?, hT]
  | _ => rfl

theorem ite_eq_left_iff_of_ne {α} {b : Bool} {x y : α} (h : b = false → y ≠ x) : (if b then x else y) = x ↔ b = true := by
  cases b
  · exact ⟨fun e => absurd e (h rfl), nofun⟩
  · exact ⟨fun _ => rfl, fun _ => rfl⟩

theorem eq_nil_of_typeOf_none {v : GoVal} (h : typeOf? v = none) : v = .nil := by
  cases v <;> first | rfl | cases h

theorem not_absent_ne_nil {v : GoVal} (h : absent v = false) : v ≠ .nil := by
  intro e; subst e; cases h

theorem typeOf_not_iface {x : GoVal} {t : Ty} (h : typeOf? x = some t) : isIfaceTy t = false := by
  cases x <;> cases h <;> rfl

/-- `v` is a legal value of the static type `T` (what the Go type checker guarantees for `JustGenerics[T](v)`) -/
def HasTy (T : Ty) (v : GoVal) : Prop :=
  implementsTy T v = true ∨ (v = .nil ∧ (T = .any ∨ ∃ U, T = .maybe U))

def PointeeOK (t : Ty) (x : GoVal) : Prop :=
  if isIfaceTy t then (x = .nil ∨ implementsTy t x = true) else typeOf? x = some t

def WF (h : List GoVal) (v : GoVal) : Prop :=
  ∀ t a, v = .ptr t (some a) → ∃ x, h[a]? = some x ∧ PointeeOK t x

theorem pointeeOK_concrete {t : Ty} {x : GoVal} (h : isIfaceTy t = false) : PointeeOK t x ↔ typeOf? x = some t := by
  simp only [PointeeOK, h, Bool.false_eq_true, if_false]

theorem pointeeOK_zeroOf (t : Ty) : PointeeOK t (zeroOf t) := by
  cases t <;> first | exact rfl | exact Or.inl rfl

theorem implementsTy_ptr (T t : Ty) (a b : Option Nat) : implementsTy T (.ptr t a) = implementsTy T (.ptr t b) := by
  cases T <;> rfl

theorem implementsTy_ne_nil {T : Ty} {v : GoVal} (h : implementsTy T v = true) : v ≠ .nil := by
  rintro rfl; cases T <;> cases h

theorem present_implements {T : Ty} {v : GoVal} (hty : HasTy T v) (hab : absent v = false) : implementsTy T v = true := by
  rcases hty with h | ⟨rfl, _⟩
  · exact h
  · cases hab

/-- the guard `IsPtr && !IsNil` of `ToPtr`; the same test decides the path through `CloneTo` -/
theorem livePtr_of {v : GoVal} : (fpIsPtr v && !absent v) = true → ∃ t a, v = .ptr t (some a) := by
  cases v with
  | ptr t p => cases p with
    | none => exact fun h => absurd h Bool.false_ne_true
    | some a => exact fun _ => ⟨t, a, rfl⟩
  | _ => exact fun h => absurd h Bool.false_ne_true

theorem zeroOf_not_livePtr (T : Ty) : (fpIsPtr (zeroOf T) && !absent (zeroOf T)) = false := by
  cases T <;> rfl

/-- the Value `Elem` yields for a live cell `a` of a `*t` holding `x`: of kind Interface when `t` is an interface type.
    Stating `Type`, `Set` and `Interface` on it spares the case split on `isIfaceTy t` everywhere else. -/
def cellRV (t : Ty) (x : GoVal) (a : Nat) : RV := if isIfaceTy t then .iface t x (some a) else .val x (some a)

theorem valueOf_ptr (t : Ty) (p : Option Nat) : valueOf (.ptr t p) = .val (.ptr t p) none := rfl

theorem kind_ptr (t : Ty) (p ad : Option Nat) : (RV.val (.ptr t p) ad).kind = .ptr := rfl

theorem elem_ptr {h : List GoVal} {a : Nat} {x : GoVal} (t : Ty) (ad : Option Nat) (hx : h[a]? = some x) :
    (RV.val (.ptr t (some a)) ad).elem h = .ok (cellRV t x a) := by
  simp only [RV.elem, hx]; rfl

theorem cellRV_type {t : Ty} {x : GoVal} (a : Nat) (hok : PointeeOK t x) : (cellRV t x a).type = .ok t := by
  unfold cellRV
  cases hif : isIfaceTy t
  · simp only [RV.type, (pointeeOK_concrete hif).1 hok, Bool.false_eq_true, if_false]; rfl
  · rfl

theorem cellRV_interface (t : Ty) (x : GoVal) (a : Nat) : (cellRV t x a).interface = .ok x := by
  unfold cellRV; cases isIfaceTy t <;> rfl

theorem cellRV_set {t : Ty} {x y : GoVal} (h : List GoVal) (a b : Nat) (hx : PointeeOK t x) (hy : PointeeOK t y) :
    RV.set h (cellRV t y b) (cellRV t x a) = .ok (h.set b x) := by
  unfold cellRV
  cases hif : isIfaceTy t
  · simp only [RV.set, (pointeeOK_concrete hif).1 hx, (pointeeOK_concrete hif).1 hy, Bool.false_eq_true, if_false, if_true]; rfl
  · simp only [RV.set, if_true, decide_true, Bool.true_or]; rfl

/-- storing into the cell `reflect.New` has just appended -/
theorem set_concat_length {α} (l : List α) (z x : α) : (l ++ [z]).set l.length x = l ++ [x] := by simp

/-- `CloneTo` writes through `dest` exactly when it is a non-nil pointer -/
theorem useDest_eq (d : GoVal) :
    (if (valueOf d).kind = .ptr then (do pure (!(← (valueOf d).isNil))) else pure false : R Bool)
      = .ok (fpIsPtr d && !absent d) := by
  cases d with
  | ptr t p => cases p <;> rfl
  | _ => rfl

/-- the paths of `CloneTo` that never look at `dest`: `IsNil()`, and a value that is no pointer -/
theorem cloneTo_nonptr (h : List GoVal) (d : GoVal) {T : Ty} {m : MaybeV}
    (hnp : (fpIsPtr m.unwrap && !m.isNil) = false) (hty : m.isNil = false → implementsTy T m.unwrap = true) :
    cloneTo h T m d = .ok (h, .some T m.unwrap (absent m.unwrap) (!absent m.unwrap)) := by
  cases hn : m.isNil
  · have hv : valueOf m.unwrap = .val m.unwrap none := by
      cases hr : m.unwrap <;> first | rfl | exact absurd hr (implementsTy_ne_nil (hty hn))
    have hk : ¬ (RV.val m.unwrap none).kind = .ptr := by simpa [hn, fpIsPtr, fpKind, hv] using hnp
    simp only [cloneTo, hn, hv, hk, RV.interface, assertTy, hty hn, justGenerics_eq, Bool.false_eq_true, if_false, if_true,
      bind, Except.bind, pure, Except.pure]
  · simp only [cloneTo, hn, justGenerics_eq, if_true, bind, Except.bind, pure, Except.pure]

/-- the pointer path with `dest` nil or no pointer: the copy stays in its fresh cell -/
theorem cloneTo_ptr_fresh {T t : Ty} {a : Nat} {h : List GoVal} {x d : GoVal} (p : Bool) (hx : h[a]? = some x)
    (hok : PointeeOK t x) (himp : implementsTy T (.ptr t (some a)) = true) (hd : (fpIsPtr d && !absent d) = false) :
    cloneTo h T (.some T (.ptr t (some a)) false p) d = .ok (h ++ [x], .some T (.ptr t (some h.length)) false true) := by
  simp only [cloneTo, useDest_eq, hd]
  simp only [MaybeV.isNil, MaybeV.unwrap, valueOf_ptr, kind_ptr, elem_ptr t _ hx, cellRV_type _ hok, rvNew,
    elem_ptr t _ List.getElem?_concat_length, cellRV_set _ _ _ hok (pointeeOK_zeroOf t), set_concat_length, RV.interface, assertTy,
    implementsTy_ptr T t (some h.length) (some a), himp, justGenerics_eq, Bool.false_eq_true, if_false, if_true,
    bind, Except.bind, pure, Except.pure]
  rfl

/-- the pointer path with `dest` a live pointer of the same type: the fresh copy is copied on through `dest` -/
theorem cloneTo_ptr_dest {T t : Ty} {a b : Nat} {h : List GoVal} {x y : GoVal} (p : Bool) (hx : h[a]? = some x)
    (hok : PointeeOK t x) (hy : h[b]? = some y) (hyok : PointeeOK t y) :
    cloneTo h T (.some T (.ptr t (some a)) false p) (.ptr t (some b)) =
      .ok ((h ++ [x]).set b x, .some T (.ptr t (some b)) false true) := by
  have hy' : (h ++ [x])[b]? = some y := by
    rw [List.getElem?_append_left (List.getElem?_eq_some_iff.1 hy).1]; exact hy
  simp only [cloneTo, useDest_eq]
  simp only [MaybeV.isNil, MaybeV.unwrap, valueOf_ptr, kind_ptr, elem_ptr t _ hx, cellRV_type _ hok, rvNew,
    elem_ptr t _ List.getElem?_concat_length, cellRV_set _ _ _ hok (pointeeOK_zeroOf t), set_concat_length, elem_ptr t _ hy',
    cellRV_set _ _ _ hok hyok, justGenerics_eq, Bool.false_eq_true, if_false, if_true, bind, Except.bind, pure, Except.pure]
  rfl

theorem clone_nonptr (c : Ctor) (v : GoVal) (h : List GoVal) (hty : HasTy c.param v)
    (hnp : (fpIsPtr v && !absent v) = false) : (built c v).clone h = .ok (h, built c v) := by
  rcases built_cases c v with hb | hb <;> rw [hb]
  · rfl
  · exact cloneTo_nonptr h _ hnp (present_implements hty)

theorem cloneTo_built_nonptr (c : Ctor) (v d : GoVal) (h : List GoVal) (hty : HasTy c.param v)
    (hnp : (fpIsPtr v && !absent v) = false) : ∃ r, cloneTo h c.param (built c v) d = .ok r := by
  rcases built_cases c v with hb | hb <;> rw [hb]
  · exact ⟨_, cloneTo_nonptr h d rfl nofun⟩
  · exact ⟨_, cloneTo_nonptr h d hnp (present_implements hty)⟩

/-- `ToPtr` returns: `Indirect` and `Interface` are reached only behind the guard `IsPtr && !IsNil`, where the pointee is live -/
theorem toPtr_ok (c : Ctor) (v : GoVal) (h : List GoVal) (hwf : WF h v) : ∃ r, (built c v).toPtr h = .ok r := by
  rcases built_cases c v with hb | hb <;> rw [hb]
  · exact ⟨_, rfl⟩                 -- `None.ToPtr()` is nil
  · simp only [MaybeV.toPtr]
    cases hp : (fpIsPtr v && !absent v)
    · exact ⟨_, rfl⟩               -- guard false: `&maybeSelf.ref`
    · -- guard true: the pointee is read; each of the three arms of the type switch on it returns
      obtain ⟨t, a, rfl⟩ := livePtr_of hp
      obtain ⟨x, hx, _⟩ := hwf t a rfl
      simp only [indirect, valueOf_ptr, kind_ptr, elem_ptr t _ hx, cellRV_interface, if_true, bind, Except.bind]
      split
      · exact ⟨_, rfl⟩
      · split <;> exact ⟨_, rfl⟩

end FpgoVerif.C01
