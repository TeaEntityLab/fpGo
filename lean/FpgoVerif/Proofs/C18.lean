import FpgoVerif.Model.C18
/-! For C18: what a call log shows (`icptIds`, `transports`, `thread`), the code's walk by index against the prescribed
    walk (`C18_visit`), the interceptor bookkeeping on lists (`C18_book`) and on Go slices over backing arrays
    (`C18_storage`). -/
namespace FpgoVerif.C18

def icptIds : List Ev → List Nat
  | [] => []
  | .icpt i _ :: l => i :: icptIds l
  | .transport .. :: l => icptIds l

def transports : List Ev → List (Tr × Req)
  | [] => []
  | .icpt .. :: l => transports l
  | .transport t r :: l => (t, r) :: transports l

def thread (beh : Nat → Req → Req × Bool) (req : Req) (ids : List Nat) : Req :=
  ids.foldl (fun r i => (beh i r).1) req

section visit
variable (beh : Nat → Req → Req × Bool) (tf : Tr → Bool) (t : Tr) {i : Nat} (rest : List Nat) {req : Req}

theorem visit_fail (hf : (beh i req).2 = true) : Spec.visit beh tf t (i :: rest) req = ([.icpt i req], .err i) := by
  simp only [Spec.visit, hf, if_true]

theorem visit_pass (hf : (beh i req).2 = false) :
    Spec.visit beh tf t (i :: rest) req =
      (.icpt i req :: (Spec.visit beh tf t rest (beh i req).1).1, (Spec.visit beh tf t rest (beh i req).1).2) := by
  simp only [Spec.visit, hf, Bool.false_eq_true, if_false]

end visit

theorem visit_eq (beh : Nat → Req → Req × Bool) (tf : Tr → Bool) (s : SH) (t : Tr) (ht : s.clientTransport = some t) (hne : t ≠ .self) :
    ∀ fuel req index, index ≤ s.interceptors.length → s.interceptors.length + 1 ≤ fuel + index →
      recursiveVisit beh tf s fuel req index = Spec.visit beh tf t (s.interceptors.drop index) req := by
  intro fuel
  induction fuel with
  | zero => intro req index h1 h2; omega
  | succ fuel ih =>
    intro req index h1 h2
    unfold recursiveVisit
    by_cases hge : index ≥ s.interceptors.length
    · rw [List.drop_eq_nil_of_le hge]
      simp only [hge, ht, Option.isSome_some, and_self, if_true]
      cases t with
      | self => exact absurd rfl hne
      | _ => rfl
    · have hlt : index < s.interceptors.length := Nat.lt_of_not_ge hge
      rw [List.drop_eq_getElem_cons hlt]
      simp only [hge, false_and, if_false, List.getElem?_eq_getElem hlt]
      cases hf : (beh s.interceptors[index] req).2
      · rw [visit_pass beh tf t _ hf, ih _ (index + 1) hlt (by omega)]; rfl
      · rw [visit_fail beh tf t _ hf]; rfl

theorem getLast?_cons_of_some {α} {l : List α} {x : α} (a : α) (h : l.getLast? = some x) : (a :: l).getLast? = some x := by
  rw [List.getLast?_cons, h, Option.getD_some]

theorem foldl_append_eq (l xs : List Nat) : xs.foldl append l = l ++ xs := by
  induction xs generalizing l with
  | nil => simp
  | cons x xs ih => simp [List.foldl_cons, ih, append]

theorem foldl_minus_eq (l xs : List Nat) :
    xs.foldl (fun l x => minus l [x]) l = l.filter (fun y => !xs.contains y) := by
  induction xs generalizing l with
  | nil => exact (List.filter_eq_self.2 fun _ _ => rfl).symm
  | cons x xs ih =>
    rw [List.foldl_cons, ih]
    unfold minus
    rw [List.filter_filter]
    congr 1
    funext y
    simp only [List.contains_cons, List.contains_nil, Bool.or_false, Bool.not_or]
    exact Bool.and_comm _ _

theorem book_cons (l : List Nat) (op : Op) (ops : List Op) : Spec.book l (op :: ops) = Spec.book (Spec.book l [op]) ops := by
  cases op <;> rfl

theorem book_eq_foldl (ops : List Op) : ∀ l, Spec.book l ops = ops.foldl (fun l op => Spec.book l [op]) l := by
  induction ops with
  | nil => exact fun _ => rfl
  | cons op ops ih => exact fun l => by rw [book_cons, ih, List.foldl_cons]

theorem applyOp_frame (s : SH) (op : Op) :
    (applyOp s op).client = s.client ∧ (applyOp s op).clientTransport = s.clientTransport ∧
    (applyOp s op).lastTransport = s.lastTransport := by
  cases op <;> exact ⟨rfl, rfl, rfl⟩

theorem applyOp_interceptors (s : SH) (op : Op) : (applyOp s op).interceptors = Spec.book s.interceptors [op] := by
  cases op with
  | add xs => exact foldl_append_eq _ xs
  | rem xs => exact foldl_minus_eq _ xs
  | clear => rfl

/-- the slice operations only allocate: every existing backing array keeps its content -/
def Grows (st st' : Store) : Prop := st.length ≤ st'.length ∧ ∀ a, a < st.length → st'[a]? = st[a]?

theorem Grows.refl (st : Store) : Grows st st := ⟨Nat.le_refl _, fun _ _ => rfl⟩

theorem Grows.trans {a b c : Store} (h1 : Grows a b) (h2 : Grows b c) : Grows a c :=
  ⟨Nat.le_trans h1.1 h2.1, fun x hx => by rw [h2.2 x (Nat.lt_of_lt_of_le hx h1.1), h1.2 x hx]⟩

theorem Grows.read {st st' : Store} (h : Grows st st') (sl : Sl) (hs : sl.arr < st.length) :
    readS st' sl = readS st sl := by
  unfold readS; rw [h.2 sl.arr hs]

theorem allocS_grows (st : Store) (c : List Nat) (n : Nat) : Grows st (allocS st c n).1 :=
  ⟨by simp [allocS], fun a ha => by simp [allocS, List.getElem?_append_left ha]⟩

theorem readS_allocS (st : Store) (c : List Nat) (n : Nat) : readS (allocS st c n).1 (allocS st c n).2 = c.take n := by
  simp [readS, allocS]

theorem appendS_spec (st : Store) (sl : Sl) (x : Nat) :
    Grows st (appendS st sl x).1 ∧ readS (appendS st sl x).1 (appendS st sl x).2 = append (readS st sl) x := by
  refine ⟨allocS_grows _ _ _, ?_⟩
  unfold appendS
  rw [readS_allocS]
  unfold append
  exact List.take_of_length_le (by simp)

theorem minusS_spec (st : Store) (sl : Sl) (x : Nat) :
    Grows st (minusS st sl x).1 ∧ readS (minusS st sl x).1 (minusS st sl x).2 = minus (readS st sl) [x] := by
  refine ⟨allocS_grows _ _ _, ?_⟩
  unfold minusS
  simp only []
  rw [readS_allocS]
  simp

theorem foldS_spec {β : Type} (stepS : Store × Sl → β → Store × Sl) (step : List Nat → β → List Nat)
    (h : ∀ a x, Grows a.1 (stepS a x).1 ∧ readS (stepS a x).1 (stepS a x).2 = step (readS a.1 a.2) x) (xs : List β) :
    ∀ a, Grows a.1 (xs.foldl stepS a).1 ∧
      readS (xs.foldl stepS a).1 (xs.foldl stepS a).2 = xs.foldl step (readS a.1 a.2) := by
  induction xs with
  | nil => exact fun a => ⟨Grows.refl a.1, rfl⟩
  | cons x xs ih =>
    intro a
    obtain ⟨g1, r1⟩ := h a x
    obtain ⟨g2, r2⟩ := ih (stepS a x)
    exact ⟨g1.trans g2, by rw [List.foldl_cons, r2, r1]; rfl⟩

theorem addS_spec (st : Store) (sl : Sl) (xs : List Nat) :
    Grows st (addInterceptorS st sl xs).1 ∧
    readS (addInterceptorS st sl xs).1 (addInterceptorS st sl xs).2 = readS st sl ++ xs :=
  foldl_append_eq _ xs ▸ foldS_spec _ append (fun a x => appendS_spec a.1 a.2 x) xs (st, sl)

theorem removeS_spec (st : Store) (sl : Sl) (xs : List Nat) :
    Grows st (removeInterceptorS st sl xs).1 ∧
    readS (removeInterceptorS st sl xs).1 (removeInterceptorS st sl xs).2 =
      (readS st sl).filter (fun y => !xs.contains y) :=
  foldl_minus_eq _ xs ▸ foldS_spec _ (fun l x => minus l [x]) (fun a x => minusS_spec a.1 a.2 x) xs (st, sl)

theorem applyOpS_spec (a : Store × Sl) (op : Op) :
    Grows a.1 (applyOpS a op).1 ∧ readS (applyOpS a op).1 (applyOpS a op).2 = Spec.book (readS a.1 a.2) [op] := by
  cases op with
  | add xs => exact addS_spec a.1 a.2 xs
  | rem xs => exact removeS_spec a.1 a.2 xs
  | clear => exact ⟨allocS_grows _ _ _, readS_allocS _ _ _⟩

end FpgoVerif.C18
