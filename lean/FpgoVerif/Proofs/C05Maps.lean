import FpgoVerif.Model.C05
/-! C05 — Go maps as association lists with unique keys.
    Key membership is reduced to lookups (`k ∈ mkeys m ↔ (mget m k).isSome`); the loops of the model are folds,
    handled step by step (`mem_mkeys_foldl` for the keys, `List.foldlRecOn` for their uniqueness). -/
namespace FpgoVerif.C05
variable {κ ν : Type} [DecidableEq κ]

/-- the guard `len(x) == 0` of the Go functions fails for a non-empty operand -/
theorem length_beq_zero {β : Type} {l : List β} (h : l ≠ []) : (l.length == 0) = false := by simp [h]

theorem mkeys_cons (p : κ × ν) (t : GoMap κ ν) : mkeys (p :: t) = p.1 :: mkeys t := rfl

variable (m : GoMap κ ν) (k : κ)

theorem mget_isSome_iff : (mget m k).isSome = true ↔ k ∈ mkeys m := by
  induction m with
  | nil => simp [mget, mkeys]
  | cons p t ih =>
    obtain ⟨k', v⟩ := p
    rw [mkeys_cons, List.mem_cons, ← ih, mget]
    by_cases h : k' = k
    · simp [h]
    · simp [h, Ne.symm h]

theorem mhas_iff : mhas m k = true ↔ k ∈ mkeys m := mget_isSome_iff m k

theorem mhas_false_iff : mhas m k = false ↔ k ∉ mkeys m := by
  rw [← mhas_iff, Bool.not_eq_true]

theorem mget_none_iff : mget m k = none ↔ k ∉ mkeys m := by
  rw [← mget_isSome_iff, Option.not_isSome_iff_eq_none]

theorem mem_iff_mget (c : GoMap κ ν) (h : (mkeys c).Nodup) (k : κ) (v : ν) :
    (k, v) ∈ c ↔ mget c k = some v := by
  induction c with
  | nil => simp [mget]
  | cons p t ih =>
    obtain ⟨k0, v0⟩ := p
    rw [mkeys_cons, List.nodup_cons] at h
    rw [List.mem_cons, ih h.2, mget, Prod.mk.injEq]
    by_cases hk : k0 = k
    · subst k0
      simp [(mget_none_iff t k).2 h.1, eq_comm]
    · simp [hk, Ne.symm hk]

theorem mget_append (a b : GoMap κ ν) (k : κ) : mget (a ++ b) k = (mget a k).or (mget b k) := by
  induction a with
  | nil => rfl
  | cons p t ih => obtain ⟨k', v⟩ := p; simp only [List.cons_append, mget, ih]; split <;> rfl

theorem mget_mset (m : GoMap κ ν) (k : κ) (v : ν) (k' : κ) :
    mget (mset m k v) k' = if k = k' then some v else mget m k' := by
  induction m with
  | nil => rfl
  | cons p t ih =>
    obtain ⟨k0, v0⟩ := p
    by_cases h : k0 = k
    · subst k0; by_cases h2 : k = k' <;> simp [mset, mget, h2]
    · by_cases h2 : k0 = k'
      · subst k0; simp [mset, mget, h, Ne.symm h]
      · simp [mset, mget, h, h2, ih]

theorem mget_mdel (k' : κ) :
    mget (mdel m k) k' = if k = k' then none else mget m k' := by
  induction m with
  | nil => simp [mdel, mget]
  | cons p t ih =>
    obtain ⟨k0, v0⟩ := p
    by_cases h : k0 = k
    · subst k0
      by_cases h2 : k = k'
      · subst h2; simp [mdel, ih]
      · simp [mdel, mget, h2, ih]
    · by_cases h2 : k0 = k'
      · subst k0; simp [mdel, mget, h, Ne.symm h]
      · simp [mdel, mget, h, h2, ih]

theorem mem_mkeys_mset (v : ν) (k' : κ) :
    k' ∈ mkeys (mset m k v) ↔ k' ∈ mkeys m ∨ k = k' := by
  simp only [← mget_isSome_iff, mget_mset]; by_cases h : k = k' <;> simp [h]

theorem nodup_mkeys_mset (v : ν) (h : (mkeys m).Nodup) :
    (mkeys (mset m k v)).Nodup := by
  induction m with
  | nil => simp [mset, mkeys]
  | cons p t ih =>
    obtain ⟨k0, v0⟩ := p
    rw [mkeys_cons, List.nodup_cons] at h
    by_cases hk : k0 = k
    · subst k0; simpa only [mset, if_true, mkeys_cons, List.nodup_cons] using h
    · simp only [mset, hk, if_false, mkeys_cons, List.nodup_cons, mem_mkeys_mset]
      exact ⟨fun h' => h'.elim h.1 (fun e => hk e.symm), ih h.2⟩

theorem mkeys_mdel : mkeys (mdel m k) = (mkeys m).filter (fun k' => decide (k' ≠ k)) := by
  induction m with
  | nil => rfl
  | cons p t ih => by_cases h : p.1 = k <;> simp [mdel, mkeys_cons, h, ih]

theorem mem_mkeys_mdel (k' : κ) :
    k' ∈ mkeys (mdel m k) ↔ k' ≠ k ∧ k' ∈ mkeys m := by
  rw [mkeys_mdel, List.mem_filter, decide_eq_true_iff, and_comm]

theorem nodup_mkeys_mdel (h : (mkeys m).Nodup) : (mkeys (mdel m k)).Nodup := by
  rw [mkeys_mdel]
  exact h.sublist List.filter_sublist

theorem mset_of_not_mem (v : ν) (h : k ∉ mkeys m) : mset m k v = m ++ [(k, v)] := by
  induction m with
  | nil => rfl
  | cons p t ih =>
    obtain ⟨k0, v0⟩ := p
    rw [mkeys_cons, List.mem_cons, not_or] at h
    simp only [mset, if_neg (Ne.symm h.1), ih h.2, List.cons_append]

theorem mem_mkeys_foldl {σ : Type} {f : GoMap κ ν → σ → GoMap κ ν} {S : σ → κ → Prop}
    (hf : ∀ r x k, k ∈ mkeys (f r x) ↔ k ∈ mkeys r ∨ S x k) (L : List σ) (r : GoMap κ ν) (k : κ) :
    k ∈ mkeys (L.foldl f r) ↔ k ∈ mkeys r ∨ ∃ x ∈ L, S x k := by
  induction L generalizing r with
  | nil => simp
  | cons x L ih => simp only [List.foldl_cons, ih, hf, List.mem_cons, exists_eq_or_imp, or_assoc]

/-- `resultMap[k] = v` unless the key is present (SliceToMap, the result map of IntersectionMapByKey) -/
def putNew (r : GoMap κ ν) (p : κ × ν) : GoMap κ ν := if mhas r p.1 then r else mset r p.1 p.2

theorem mget_foldl_putNew (L r : GoMap κ ν) (k : κ) :
    mget (L.foldl putNew r) k = (mget r k).or (mget L k) := by
  induction L generalizing r with
  | nil => simp [mget]
  | cons p t ih =>
    obtain ⟨k0, v0⟩ := p
    rw [List.foldl_cons, ih, putNew, mget, mhas]
    by_cases hk : k0 = k
    · subst hk
      cases hr : mget r k0 <;> simp [hr, mget_mset]
    · split <;> simp [mget_mset, hk]

theorem mem_mkeys_foldl_putNew (L r : GoMap κ ν) (k : κ) :
    k ∈ mkeys (L.foldl putNew r) ↔ k ∈ mkeys r ∨ k ∈ mkeys L := by
  simp only [← mget_isSome_iff, mget_foldl_putNew, Option.isSome_or, Bool.or_eq_true]

theorem nodup_mkeys_foldl_putNew (L r : GoMap κ ν) (h : (mkeys r).Nodup) : (mkeys (L.foldl putNew r)).Nodup :=
  List.foldlRecOn (motive := fun r => (mkeys r).Nodup) L putNew h fun r hr p _ => by
    rw [putNew]; split
    · exact hr
    · exact nodup_mkeys_mset r p.1 p.2 hr

/-! `for k, v := range src { dst[k] = v }` -/

theorem mem_mkeys_mcopyInto (dst src : GoMap κ ν) (k : κ) :
    k ∈ mkeys (mcopyInto dst src) ↔ k ∈ mkeys dst ∨ k ∈ mkeys src := by
  rw [mcopyInto, mem_mkeys_foldl (fun r p => mem_mkeys_mset r p.1 p.2)]; simp [mkeys]

theorem nodup_mkeys_mcopyInto (dst src : GoMap κ ν) (h : (mkeys dst).Nodup) :
    (mkeys (mcopyInto dst src)).Nodup :=
  List.foldlRecOn (motive := fun r => (mkeys r).Nodup) src _ h fun r hr p _ => nodup_mkeys_mset r p.1 p.2 hr

theorem mcopyInto_eq_append (dst src : GoMap κ ν) (h : (mkeys (dst ++ src)).Nodup) :
    mcopyInto dst src = dst ++ src := by
  induction src generalizing dst with
  | nil => simp [mcopyInto]
  | cons p t ih =>
    have hp : p.1 ∉ mkeys dst := fun hm =>
      (List.nodup_append.1 (by simpa [mkeys] using h)).2.2 p.1 hm p.1 List.mem_cons_self rfl
    have := ih (dst ++ [p]) (by simpa using h)
    rw [mcopyInto, List.foldl_cons, mset_of_not_mem dst p.1 p.2 hp]
    simpa [mcopyInto] using this

theorem mget_mcopyInto (dst src : GoMap κ ν) (hs : (mkeys src).Nodup) (k : κ) :
    mget (mcopyInto dst src) k = (mget src k).or (mget dst k) := by
  induction src generalizing dst with
  | nil => rfl
  | cons p t ih =>
    obtain ⟨k0, v0⟩ := p
    rw [mkeys_cons, List.nodup_cons] at hs
    rw [mcopyInto, List.foldl_cons, ← mcopyInto, ih _ hs.2, mget_mset, mget]
    by_cases h : k0 = k
    · subst k0; rw [(mget_none_iff t k).2 hs.1]; simp
    · simp [h]

theorem nodup_mkeys_duplicateMap {ν : Type} (m : GoMap κ ν) : (mkeys (duplicateMap m)).Nodup := by
  unfold duplicateMap
  split
  · exact nodup_mkeys_mcopyInto _ _ List.nodup_nil
  · exact List.nodup_nil

theorem duplicateMap_eq (h : (mkeys m).Nodup) : duplicateMap m = m := by
  unfold duplicateMap
  split
  · exact mcopyInto_eq_append [] m h
  · exact (List.length_eq_zero_iff.1 (by omega)).symm

theorem sliceToMap_eq (d : ν) (l : List κ) : sliceToMap d l = (l.map (·, d)).foldl putNew [] := by
  rw [List.foldl_map]; rfl

theorem mem_mkeys_sliceToMap (d : ν) (l : List κ) (k : κ) : k ∈ mkeys (sliceToMap d l) ↔ k ∈ l := by
  rw [sliceToMap_eq, mem_mkeys_foldl_putNew]; simp [mkeys]

theorem nodup_mkeys_sliceToMap (d : ν) (l : List κ) : (mkeys (sliceToMap d l)).Nodup := by
  rw [sliceToMap_eq]; exact nodup_mkeys_foldl_putNew _ _ List.nodup_nil

end FpgoVerif.C05
