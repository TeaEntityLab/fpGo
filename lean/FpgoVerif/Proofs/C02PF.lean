import FpgoVerif.Proofs.C02Str
import FpgoVerif.Proofs.C02Idem
/-! C02 — the function the driver runs, `goStrconv.parseFloat` (= `goParseFloat`), satisfies `ParseFloatContract`:
    everything except `repr` follows from the shape of `goParseFloat` (a numeral is `parseRounded` of its exact
    rational value) and `roundRat_isFin`; `repr` is the idempotence of round-to-nearest-even (`RoundIdem`). -/
namespace FpgoVerif.C02

theorem parseRounded_val (f : Fmt) (s : Bool) (n d : Nat) : ∃ y, (parseRounded f s n d).val = .f64 y := by
  unfold parseRounded
  split <;> exact ⟨_, rfl⟩

theorem parseRounded_ok (f : Fmt) (s : Bool) (n d : Nat) (y : FVal) (he : (parseRounded f s n d).err = .ok)
    (hy : (parseRounded f s n d).val = .f64 y) : y = roundRat f s n d ∧ y.isFin = true := by
  unfold parseRounded at he hy
  rcases roundRat_cases f s n d with ⟨m, k, h⟩ | h
  · rw [h] at he hy ⊢
    simp at hy
    exact ⟨hy.symm, by rw [← hy]; rfl⟩
  · rw [h] at he
    simp at he

theorem parseRounded_fits (f : Fmt) (hf : f = f32 ∨ f = f64) (s : Bool) (n d : Nat) (hd : 0 < d)
    (h : n ≤ f.maxFinite * d) : (parseRounded f s n d).err = .ok := by
  have hfin := roundRat_isFin f hf s n d hd h
  unfold parseRounded
  rcases roundRat_cases f s n d with ⟨m, k, h'⟩ | h'
  · rw [h']
  · rw [h'] at hfin; simp [FVal.isFin] at hfin

theorem goParseFloat_rat (bits : Nat) (w : String) (s : Bool) (n d : Nat) (h : decimalRat w = some (s, n, d)) :
    goParseFloat bits w = parseRounded (if bits = 32 then f32 else f64) s n d := by
  simp [goParseFloat, h]

/-- the forms of `goParseFloat`'s result: the rounding of a rational (a numeral's value, also with an absurd exponent;
    zero as `0/1`), or, for a string that is no numeral, a value that is not finite whenever the error is nil -/
theorem goParseFloat_cases (bits : Nat) (w : String) :
    (∃ s n d, 0 < d ∧ goParseFloat bits w = parseRounded (if bits = 32 then f32 else f64) s n d ∧
      (decimalRat w = some (s, n, d) ∨ decimalRat w = none ∧ decimalSyntax w ≠ none)) ∨
    (decimalRat w = none ∧ ∃ y e, goParseFloat bits w = ⟨.f64 y, e⟩ ∧ (e = .ok → y.isFin = false)) := by
  cases hd : decimalRat w with
  | some snd =>
    obtain ⟨s, n, d⟩ := snd
    exact .inl ⟨s, n, d, decimalRat_den_pos hd, goParseFloat_rat bits w s n d hd, .inl rfl⟩
  | none =>
    cases hs : decimalSyntax w with
    | some v =>
      obtain ⟨neg, n, len, e⟩ := v
      have hne : some (neg, n, len, e) ≠ (none : Option (Bool × Nat × Nat × Int)) := nofun
      have hz : parseRounded (if bits = 32 then f32 else f64) neg 0 1 = ⟨.f64 (.fin neg 0 0), .ok⟩ := rfl
      by_cases h0 : n = 0
      · exact .inl ⟨neg, 0, 1, Nat.one_pos, by simp [goParseFloat, hd, hs, h0, hz], .inr ⟨rfl, hne⟩⟩
      · by_cases h1 : e > 0
        · exact .inr ⟨rfl, .inf neg, .other, by simp [goParseFloat, hd, hs, h0, h1], nofun⟩
        · by_cases h2 : (len : Int) + e < -400
          · exact .inl ⟨neg, 0, 1, Nat.one_pos, by simp [goParseFloat, hd, hs, h0, h1, h2, hz], .inr ⟨rfl, hne⟩⟩
          · exact .inl ⟨neg, n, 10 ^ (-e).toNat, Nat.pow_pos (by decide), by simp [goParseFloat, hd, hs, h0, h1, h2],
              .inr ⟨rfl, hne⟩⟩
    | none =>
      refine .inr ⟨rfl, ?_⟩
      simp only [goParseFloat, hd, hs]
      split
      · exact ⟨_, _, rfl, fun _ => rfl⟩
      · split
        · exact ⟨_, _, rfl, fun _ => rfl⟩
        · exact ⟨_, _, rfl, nofun⟩

theorem goParseFloat_contract (bits : Nat) (f : Fmt) (hb : (bits = 32 ∧ f = f32) ∨ (bits = 64 ∧ f = f64)) :
    ParseFloatContract f (goParseFloat bits) := by
  have hf : (if bits = 32 then f32 else f64) = f := by
    rcases hb with ⟨rfl, rfl⟩ | ⟨rfl, rfl⟩ <;> rfl
  have hf' : f = f32 ∨ f = f64 := hb.imp And.right And.right
  refine ⟨fun w => ?_, fun w s n d y hd he hy => ?_, fun w s n d hd hfit => ?_, fun h32 w y he hy => ?_,
    fun w y hd hlo he hy => ?_⟩
  · rcases goParseFloat_cases bits w with ⟨s, n, d, _, h, _⟩ | ⟨_, y, e, h, _⟩ <;> rw [h]
    · exact parseRounded_val _ _ _ _
    · exact ⟨y, rfl⟩
  · rw [goParseFloat_rat bits w s n d hd, hf] at he hy
    obtain ⟨rfl, hfin⟩ := parseRounded_ok f s n d y he hy
    exact ⟨sameFloat_refl _, hfin⟩
  · rw [goParseFloat_rat bits w s n d hd, hf]
    exact parseRounded_fits f hf' s n d (decimalRat_den_pos hd) hfit
  · -- a rounded value re-rounds to itself (`roundRat_idem`); NaN and ±Inf are kept by `roundTo`
    subst h32
    rcases goParseFloat_cases bits w with ⟨s, n, d, hd, h, _⟩ | ⟨_, y', e, h, hnf⟩ <;> rw [h] at he hy
    · rw [hf] at he hy
      obtain ⟨rfl, _⟩ := parseRounded_ok f32 s n d y he hy
      exact roundRat_idem f32 (.inl rfl) s n d hd
    · cases hy
      have := hnf he
      cases y with
      | fin => cases this
      | _ => exact sameFloat_refl _
  · have hs : decimalSyntax w = none := by
      cases h : decimalSyntax w with
      | none => rfl
      | some v => simp [leftOpen, h] at hlo
    rcases goParseFloat_cases bits w with ⟨s, n, d, _, _, h | h⟩ | ⟨_, y', e, h, hnf⟩
    · exact absurd (hd.symm.trans h) nofun
    · exact absurd hs h.2
    · rw [h] at he hy
      cases hy
      exact hnf he

theorem goStrconv_parseFloat64_contract : ParseFloatContract f64 (goStrconv.parseFloat 64) :=
  goParseFloat_contract 64 f64 (.inr ⟨rfl, rfl⟩)

theorem goStrconv_parseFloat32_contract : ParseFloatContract f32 (goStrconv.parseFloat 32) :=
  goParseFloat_contract 32 f32 (.inl ⟨rfl, rfl⟩)

end FpgoVerif.C02
