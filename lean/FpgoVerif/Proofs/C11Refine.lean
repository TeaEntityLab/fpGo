import FpgoVerif.Proofs.C11Lemmas
/-! C11: what `doSubscribe` / `yieldFromIO` compute, and the simulation relation between the
    implementation model (`implStep`) and the Spec (`specStep`) used by `C11_model_refines_spec`. -/
namespace FpgoVerif.C11

variable {α : Type}

/-- proof of `C11_subscribe_once` -/
theorem subscribe_once (m : M α) (onNext : α → Tag → World → World) (ob sub : Option Tag) (g : Tag)
    (w : World) :
    doSubscribe m ⟨some onNext⟩ ob sub g w =
      onNext (eval m (ob.getD g) w).1 (sub.getD (ob.getD g)) (eval m (ob.getD g) w).2 := by
  cases ob <;> cases sub <;> rfl

/-- a Subscription without OnNext runs nothing (`C11_subscribe_nil`) -/
theorem subscribe_nil (m : M α) (ob sub : Option Tag) (g : Tag) (w : World) :
    doSubscribe m ⟨none⟩ ob sub g w = w := rfl

/-- proof of `C11_yieldFromIO` -/
theorem yieldFromIO_eq (m : M Nat) (g : Tag) (w : World) :
    yieldFromIO m g w =
      (subscribeOn m none, (eval m (m.obOn.getD g) { w with cell := 0 }).1,
       { (eval m (m.obOn.getD g) { w with cell := 0 }).2 with cell := (eval m (m.obOn.getD g) { w with cell := 0 }).1 }) := by
  simp only [yieldFromIO, subscribe, subscribe_once]
  rfl

/-- `he`: the object denotes the composition `t` (what `RelReg` records of it) -/
theorem doEffect_den {m : M Nat} {t : Tree} (he : m.effect = (den t 0).effect) (g : Tag) (w : World) :
    doEffect m g w = ((run t 0 w.log.length).1, w.emits (run t 0 w.log.length).2 g) := by
  unfold doEffect; rw [he]; exact den_effect t 0 g w

theorem split_den {m : M Nat} {t : Tree} (he : m.effect = (den t 0).effect) (ob sub : Option Tag) (w : World) :
    doSubscribeSplit m logNext ob sub .main w =
      (w.emits (run t 0 w.log.length).2 (ob.getD .main),
       fun w' => w'.emit (.next (run t 0 w.log.length).1) (sub.getD (ob.getD .main))) := by
  simp only [doSubscribeSplit, doEffect_den he]; rfl

theorem queues_sub {γ : Type} {pend : Option (Tag × γ)} {qok : Bool} {n : Nat} {ob sub : Option Tag} {o : BOp}
    (h : queues pend qok n ob sub o = true) : sub = some .h3 := by
  unfold queues at h
  split at h
  · simp only [Bool.and_eq_true, beq_iff_eq] at h; exact h.1.1.2
  · cases h

def RelB (s : M Nat × World) (st : SpecSt) : Prop :=
  s.1.effect = (den st.t 0).effect ∧ s.1.obOn = st.ob ∧ s.1.subOn = st.sub ∧ s.2.log.length = st.n

theorem basic_step (m : M Nat) (w : World) (st : SpecSt) (o : BOp) (hrel : RelB (m, w) st) :
    RelB (implOp (m, w) o).1 (specOp' st o).1 ∧ (implOp (m, w) o).2 = (specOp' st o).2 := by
  obtain ⟨he, hob, hsub, hn⟩ := hrel
  simp only at he hob hsub hn
  cases o with
  | build => exact ⟨⟨he, hob, hsub, hn⟩, rfl⟩
  | ob h => exact ⟨⟨he, rfl, hsub, hn⟩, rfl⟩
  | so h => exact ⟨⟨he, hob, rfl, hn⟩, rfl⟩
  | eval =>
    simp only [implOp, specOp', eval, doEffect_den he, drop_emits, showEvs_kinds]
    rw [← hn]
    exact ⟨⟨he, hob, hsub, by simp⟩, rfl⟩
  | sub =>
    simp only [implOp, specOp', subscribe, subscribe_once, eval, doEffect_den he, hob, hsub, logNext, drop_emits_emit, showEvs_kinds_next]
    rw [← hn]
    exact ⟨⟨he, hob, hsub, by simp [Nat.add_assoc]⟩, rfl⟩
  | subNil =>
    exact ⟨⟨he, hob, hsub, hn⟩, by simp [implOp, specOp', subscribe, subscribe_nil, showEvs, joinEvs]⟩
  | yield =>
    simp only [implOp, specOp', yieldFromIO_eq, hob, eval, doEffect_den he]
    rw [← hn]
    refine ⟨⟨he, hob, rfl, by simp⟩, ?_⟩
    rw [drop_emits { w with cell := 0 }, showEvs_kinds]

def RelReg : Option (M Nat) → Option SReg → Prop
  | none, none => True
  | some m, some r => m.effect = (den r.t 0).effect ∧ m.obOn = r.ob ∧ m.subOn = r.sub
  | _, _ => False

def RelPend : Option (Tag × (World → World)) → Option (Tag × Nat × Tag) → Prop
  | none, none => True
  | some (hb, k), some (hb', v, g2) => hb = hb' ∧ k = fun w => w.emit (.next v) g2
  | _, _ => False

def Rel (s : ISt) (t : SSt) : Prop :=
  (∀ k, RelReg (s.regs k) (t.regs k)) ∧ s.cur = t.cur ∧ s.w.log.length = t.n ∧ RelPend s.pend t.pend ∧
    s.allowSame = t.allowSame ∧ s.qok = t.qok ∧ s.queue = t.queue.map qF

theorem relReg_set {regs : Nat → Option (M Nat)} {sregs : Nat → Option SReg} (h : ∀ k, RelReg (regs k) (sregs k))
    (j j' : Nat) (hj : j = j') (m : M Nat) (r : SReg) (hr : RelReg (some m) (some r)) :
    ∀ k, RelReg (setReg regs j m k) (setReg sregs j' r k) := by
  subst hj
  intro k; unfold setReg; by_cases hk : k = j <;> simp [hk, hr, h k]

@[elab_as_elim] theorem RelReg.cases {a : Option (M Nat)} {b : Option SReg} {motive : Option (M Nat) → Option SReg → Prop}
    (h : RelReg a b) (hn : motive none none) (hs : ∀ m r, RelReg (some m) (some r) → motive (some m) (some r)) :
    motive a b := by
  cases a <;> cases b <;> first | exact hn | exact hs _ _ h | exact h.elim

@[elab_as_elim] theorem RelPend.cases {a : Option (Tag × (World → World))} {b : Option (Tag × Nat × Tag)}
    {motive : Option (Tag × (World → World)) → Option (Tag × Nat × Tag) → Prop} (h : RelPend a b) (hn : motive none none)
    (hs : ∀ hb v g2, motive (some (hb, fun w => w.emit (.next v) g2)) (some (hb, v, g2))) : motive a b := by
  cases a <;> cases b <;> first | exact hn | exact h.elim | skip
  rename_i p q
  obtain ⟨hb, k⟩ := p
  obtain ⟨hb', v, g2⟩ := q
  obtain ⟨rfl, rfl⟩ := h
  exact hs _ _ _

theorem rel_step (s : ISt) (t : SSt) (o : Op) (h : Rel s t) :
    Rel (implStep s o).1 (specStep t o).1 ∧ (implStep s o).2 = (specStep t o).2 := by
  have ⟨hregs, hcur, hn, hpend, hsame, hqok, hq⟩ := h
  have hcurReg : RelReg (s.regs s.cur) (t.regs t.cur) := hcur ▸ hregs s.cur
  -- a step that is refused on one side is refused on the other, and leaves both states as they are: `⟨h, rfl⟩`
  cases o with
  | sel j =>
    simp only [implStep, specStep]
    exact (hregs j).cases ⟨h, rfl⟩ fun _ _ _ => ⟨⟨hregs, rfl, hn, hpend, hsame, hqok, hq⟩, rfl⟩
  | derive j c b =>
    simp only [implStep, specStep]
    refine hcurReg.cases ⟨h, rfl⟩ fun m r hr => ?_
    refine ⟨⟨relReg_set hregs j j rfl _ _ ⟨?_, rfl, rfl⟩, hcur, hn, hpend, hsame, hqok, hq⟩, rfl⟩
    simp only [den, flatMap, doEffect, hr.1]
  | deriveRet j c k =>
    simp only [implStep, specStep]
    refine hcurReg.cases ⟨h, rfl⟩ fun m r hr => ?_
    refine (hregs k).cases ⟨h, rfl⟩ fun mk rk hk => ?_
    refine ⟨⟨relReg_set hregs j j rfl _ _ ⟨?_, rfl, rfl⟩, hcur, hn, hpend, hsame, hqok, hq⟩, rfl⟩
    simp only [den, flatMap, doEffect, kont, new, hr.1, hk.1]
  | gopen =>
    simp only [implStep, specStep]
    refine hpend.cases ⟨h, rfl⟩ fun hb v g2 => ?_
    have hlog : (s.queue.foldl (fun w f => f w) (s.w.emit (.next v) g2)).log =
        s.w.log ++ (⟨.next v, g2⟩ :: t.queue.map (fun p => ⟨.next p.1, p.2⟩)) := by
      rw [hq, queue_log]
      simp
    refine ⟨⟨hregs, hcur, ?_, trivial, hsame, rfl, rfl⟩, ?_⟩
    · simp [hlog, hn]
      omega
    · simp [hlog, showEvs, joinEvs, showKinds, List.map_map, Function.comp_def]
  | gsub =>
    simp only [implStep, specStep]
    refine hcurReg.cases ⟨h, rfl⟩ fun m r ⟨he, hob, hsub⟩ => ?_
    refine hpend.cases ?_ fun _ _ _ => ⟨h, rfl⟩
    dsimp only
    rw [hob, hsub, hsame]
    cases hc : (if (!t.allowSame && sameUnbuffered r.ob r.sub) = true then none else r.ob) with
    | none => exact ⟨h, rfl⟩
    | some hb =>
      have hobr : r.ob = some hb := by
        split at hc
        · cases hc
        · exact hc
      dsimp only
      rw [split_den he, hobr, ← hn]
      exact ⟨⟨hregs, hcur, by simp, ⟨rfl, rfl⟩, rfl, rfl, rfl⟩, by rw [drop_emits, showEvs_kinds]; rfl⟩
  | basic o =>
    simp only [implStep, specStep]
    refine hcurReg.cases ⟨h, rfl⟩ fun m r ⟨he, hob, hsub⟩ => ?_
    -- both sides take the same branch: the two guards are functions of components the relation makes equal
    -- (after rewriting those, by cases on what is pending and on `o`)
    have hgq : guarded s.allowSame s.pend m.obOn m.subOn o = guarded t.allowSame t.pend r.ob r.sub o ∧
        queues s.pend s.qok s.queue.length m.obOn m.subOn o = queues t.pend t.qok t.queue.length r.ob r.sub o := by
      have hl : s.queue.length = t.queue.length := by rw [hq]; simp
      rw [hob, hsub, hsame, hqok, hl]
      refine hpend.cases ?_ fun _ _ _ => ?_ <;> constructor <;> cases o <;> rfl
    dsimp only
    rw [hgq.1, hgq.2]
    split
    · -- the delivery is queued behind the gated subscription
      rename_i hqs
      rw [split_den he, hob, hsub, queues_sub hqs, ← hn]
      exact ⟨⟨hregs, hcur, by simp, hpend, hsame, hqok, by rw [hq, List.map_append]; rfl⟩,
        by rw [drop_emits, showEvs_kinds]⟩
    split
    · exact ⟨h, rfl⟩
    · obtain ⟨⟨h1, h2, h3, h4⟩, hout⟩ := basic_step m s.w ⟨r.t, r.ob, r.sub, t.n⟩ o ⟨he, hob, hsub, hn⟩
      exact ⟨⟨relReg_set hregs _ _ hcur _ _ ⟨h1, h2, h3⟩, hcur, h4, hpend, hsame, hqok, hq⟩, hout⟩

end FpgoVerif.C11
