import FpgoVerif.Proofs.C04Frame
/-! C04 — the maps of Set results stay well-formed, and the StreamSet operations: every one yields a well-formed
    extension, and its result holds, on *entries* (stream pointers replaced by their element sequences), the
    prescribed function of the operands' entries. -/
namespace FpgoVerif.C04
open World

variable {w w' w₀ : World} {p : Nat} {m : AMap} {v : Val}

theorem mapOk_cons {a : Int × Val} {t : AMap} : mapOk w (a :: t) ↔ valOk w a.2 ∧ mapOk w t :=
  List.forall_mem_cons

theorem mapOk_filter (h : mapOk w m) (f : Int × Val → Bool) : mapOk w (m.filter f) :=
  fun kv hkv => h kv (List.mem_filter.mp hkv).1

theorem mapOk_insert (h : mapOk w m) (k : Int) (hv : valOk w v) :
    mapOk w (Spec.insert k v m) := by
  induction m with
  | nil => exact mapOk_cons.mpr ⟨hv, h⟩
  | cons a t ih =>
    rw [mapOk_cons] at h
    unfold Spec.insert; split
    · exact mapOk_cons.mpr ⟨hv, h.2⟩
    · exact mapOk_cons.mpr ⟨h.1, ih h.2⟩

theorem mapOk_foldl_insertIfAbsent (hv : valOk w v) (items : List Int) :
    ∀ {m : AMap}, mapOk w m → mapOk w (items.foldl (fun m k => Spec.insertIfAbsent k v m) m) := by
  induction items with
  | nil => exact id
  | cons a t ih =>
    intro m h
    refine ih (?_ : mapOk w (Spec.insertIfAbsent a v m))
    unfold Spec.insertIfAbsent; split
    · exact h
    · exact mapOk_insert h a hv

theorem mapOk_foldl_insert (g : Int → Int) (l : List (Int × Val)) (hl : mapOk w l) :
    ∀ {acc : AMap}, mapOk w acc → mapOk w (l.foldl (fun r kv => Spec.insert (g kv.1) kv.2 r) acc) := by
  induction l with
  | nil => exact id
  | cons a t ih =>
    rw [mapOk_cons] at hl
    exact fun h => ih hl.2 (mapOk_insert h _ hl.1)

theorem mapOk_ofKeys (hv : valOk w v) (l : List Int) : mapOk w (Spec.ofKeys v l) :=
  mapOk_foldl_insertIfAbsent hv l (mapOk_nil w)

theorem mapOk_ofPairs {l : List (Int × Val)} (hl : mapOk w l) : mapOk w (Spec.ofPairs l) :=
  mapOk_foldl_insert id l hl (mapOk_nil w)

theorem mapOk_merge {m₁ m₂ : AMap} (h₁ : mapOk w m₁) (h₂ : mapOk w m₂) : mapOk w (Spec.merge m₁ m₂) :=
  mapOk_foldl_insert id m₂ h₂ h₁

theorem mapOk_mapKeys (h : mapOk w m) (f : Int → Int) : mapOk w (Spec.mapKeys f m) :=
  mapOk_foldl_insert f m h (mapOk_nil w)

theorem mapOk_map {α} (l : List α) (f : α → Int × Val) (hf : ∀ a, valOk w (f a).2) : mapOk w (l.map f) := by
  intro kv hkv
  obtain ⟨a, _, rfl⟩ := List.mem_map.mp hkv
  exact hf a

theorem lookup_ok (h : mapOk w m) {k : Int} (hl : Spec.lookup k m = some v) : valOk w v := by
  induction m with
  | nil => cases hl
  | cons a t ih =>
    obtain ⟨k', v'⟩ := a
    rw [mapOk_cons] at h
    simp only [Spec.lookup] at hl
    split at hl
    · cases hl; exact h.1
    · exact ih h.2 hl

theorem setMap_newSet (w : World) (m : AMap) : (w.newSet m).1.setMap (w.newSet m).2 = m := by
  simp [newSet, allocMap, allocSet, setMap, mapAt, List.getD_eq_getElem?_getD]

theorem setMap_newNilSet (w : World) : w.newNilSet.1.setMap w.newNilSet.2 = [] := by
  simp [newNilSet, allocSet, setMap, List.getD_eq_getElem?_getD]

theorem setMap_newSet_entries (hw : Wf w) (hm : mapOk w m) :
    entriesOf (w.newSet m).1 ((w.newSet m).1.setMap (w.newSet m).2) = entriesOf w m := by
  rw [setMap_newSet]
  exact entriesOf_le hw (newSet_res hw hm).1.le hm

theorem lookup_listMap_kval {β γ : Type} (G : Int → β → γ) (k : Int) (m : List (Int × β)) :
    Spec.lookup k (m.map (fun kv => (kv.1, G kv.1 kv.2))) = (Spec.lookup k m).map (G k) := by
  induction m with
  | nil => rfl
  | cons a t ih =>
    obtain ⟨ka, va⟩ := a
    simp only [List.map_cons, Spec.lookup]
    split
    · subst ka; rfl
    · exact ih

theorem lookup_listMap_val {β γ : Type} (h : β → γ) (k : Int) (m : List (Int × β)) :
    Spec.lookup k (m.map (fun kv => (kv.1, h kv.2))) = (Spec.lookup k m).map h :=
  lookup_listMap_kval (fun _ => h) k m

theorem entriesOf_interByKey (w : World) (m₁ m₂ : AMap) :
    entriesOf w (Spec.interByKey m₁ m₂) = Spec.interByKey (entriesOf w m₁) (entriesOf w m₂) := by
  unfold Spec.interByKey entriesOf
  rw [List.filter_map]
  congr 1
  apply List.filter_congr
  intro kv _
  simp [Spec.hasKey, lookup_listMap_val]

theorem insert_map_val {β γ : Type} (h : β → γ) (k : Int) (v : β) (m : List (Int × β)) :
    (Spec.insert k v m).map (fun kv => (kv.1, h kv.2)) = Spec.insert k (h v) (m.map (fun kv => (kv.1, h kv.2))) := by
  induction m with
  | nil => rfl
  | cons a t ih =>
    obtain ⟨ka, va⟩ := a
    simp only [Spec.insert, List.map_cons]
    split
    · rfl
    · rw [List.map_cons, ih]

theorem merge_map_val {β γ : Type} (h : β → γ) (m₂ : List (Int × β)) : ∀ m₁ : List (Int × β),
    (Spec.merge m₁ m₂).map (fun kv => (kv.1, h kv.2))
      = Spec.merge (m₁.map (fun kv => (kv.1, h kv.2))) (m₂.map (fun kv => (kv.1, h kv.2))) := by
  induction m₂ with
  | nil => intro m₁; rfl
  | cons a t ih =>
    intro m₁
    simp only [Spec.merge, List.foldl_cons, List.map_cons] at ih ⊢
    rw [ih, insert_map_val]

theorem mapEntriesM_res (f : World → Int → Val → World × Val)
    (hf : ∀ w k v, Good w₀ w → valOk w v → Good w (f w k v).1 ∧ valOk (f w k v).1 (f w k v).2) :
    ∀ (m : AMap) (w : World), Good w₀ w → mapOk w m →
      Good w (mapEntriesM f w m).1 ∧ mapOk (mapEntriesM f w m).1 (mapEntriesM f w m).2 := by
  intro m
  induction m with
  | nil => intro w g _; exact ⟨Good.refl g.wf, mapOk_nil _⟩
  | cons a t ih =>
    obtain ⟨k, v⟩ := a
    intro w g hm
    rw [mapOk_cons] at hm
    have h1 := hf w k v g hm.1
    have h2 := ih (f w k v).1 (g.trans h1.1) (mapOk_grow h1.1.le.grow hm.2)
    exact ⟨h1.1.trans h2.1, mapOk_cons.mpr ⟨valOk_grow h2.1.le.grow h1.2, h2.2⟩⟩

theorem mapEntriesM_entries {w₀ : World} (f : World → Int → Val → World × Val) (gC : Int → CVal → CVal)
    (hf : ∀ w k v, Good w₀ w → valOk w v → Good w (f w k v).1 ∧ valOk (f w k v).1 (f w k v).2)
    (hc : ∀ w k v, Good w₀ w → valOk w v → cval (f w k v).1 (f w k v).2 = gC k (cval w v)) :
    ∀ (m : AMap) (w : World), Good w₀ w → mapOk w m →
      entriesOf (mapEntriesM f w m).1 (mapEntriesM f w m).2 = (entriesOf w m).map (fun kv => (kv.1, gC kv.1 kv.2)) := by
  intro m
  induction m with
  | nil => intro w _ _; rfl
  | cons a t ih =>
    obtain ⟨k, v⟩ := a
    intro w g hm
    rw [mapOk_cons] at hm
    have h1 := hf w k v g hm.1
    have ht1 : mapOk (f w k v).1 t := mapOk_grow h1.1.le.grow hm.2
    have h2 := mapEntriesM_res f hf t (f w k v).1 (g.trans h1.1) ht1
    show (k, cval (mapEntriesM f (f w k v).1 t).1 (f w k v).2)
        :: entriesOf (mapEntriesM f (f w k v).1 t).1 (mapEntriesM f (f w k v).1 t).2
      = (k, gC k (cval w v)) :: (entriesOf w t).map _
    rw [cval_le h1.1.wf h2.1.le h1.2, hc w k v g hm.1, ih (f w k v).1 (g.trans h1.1) ht1,
      entriesOf_le g.wf h1.1.le hm.2]

theorem valStr_lt (hv : valOk w v) {q : Nat} (h : valStr v = some q) : q < w.strs.length := by
  cases v with
  | int n => cases h
  | str p => cases p with
    | none => cases h
    | some q' => cases h; exact hv

theorem nonEmptyAt_some {k : Int} {q : Nat} (h : nonEmptyAt w m k = some q) :
    (∃ v, Spec.lookup k m = some v ∧ valStr v = some q) ∧ (w.strHdr q).len > 0 := by
  unfold nonEmptyAt at h
  split at h
  · split at h
    · split at h
      · cases h; exact ⟨⟨_, ‹_›, ‹_›⟩, ‹_›⟩
      · cases h
    · cases h
  · cases h

theorem nonEmptyAt_lt (hm : mapOk w m) {k : Int} {q : Nat}
    (h : nonEmptyAt w m k = some q) : q < w.strs.length :=
  let ⟨⟨_, hl, hq⟩, _⟩ := nonEmptyAt_some h
  valStr_lt (lookup_ok hm hl) hq

theorem nonEmptyAt_good {w₀ w : World} (g : Good w₀ w) (hm : mapOk w₀ m) (k : Int) :
    nonEmptyAt w m k = nonEmptyAt w₀ m k := by
  unfold nonEmptyAt
  cases hl : Spec.lookup k m with
  | none => rfl
  | some v =>
    simp only
    cases hv : valStr v with
    | none => rfl
    | some q => simp only; rw [strHdr_le g.le (valStr_lt (lookup_ok hm hl) hv)]

/-- a StreamSet operation takes a nil or non-stream value for the empty sequence -/
def strOf : CVal → List Int
  | .str l => l
  | _ => []

def nonEmptyC (e : List (Int × CVal)) (k : Int) : Option (List Int) :=
  match Spec.lookup k e with
  | some (.str l) => if l.isEmpty then none else some l
  | _ => none

/-- per-key combination used by Union (`++`), Intersection (`Spec.inter`), MinusStreams (`Spec.minus`) -/
def combineC (opS : List Int → List Int → List Int) (e₂ : List (Int × CVal)) (k : Int) (c : CVal) : CVal :=
  match nonEmptyC e₂ k with
  | some l2 => .str (opS (strOf c) l2)
  | none => c

theorem nonEmptyAt_entries (hw : Wf w) (m : AMap) (k : Int) :
    (nonEmptyAt w m k).map w.strContent = nonEmptyC (entriesOf w m) k := by
  unfold nonEmptyAt nonEmptyC entriesOf
  rw [lookup_listMap_val]
  cases Spec.lookup k m with
  | none => rfl
  | some v =>
    cases v with
    | int n => rfl
    | str o =>
      cases o with
      | none => rfl
      | some q =>
        simp only [valStr, Option.map_some, cval, ← strContent_length hw q]
        cases hc : w.strContent q <;> simp [hc]

theorem strContent_newNilStream (w : World) : w.newNilStream.1.strContent w.newNilStream.2 = [] :=
  strContent_allocStr_new w Slice.nil

theorem orNewStream_res (hw : Wf w) (hv : valOk w v) : StrRes w (w.orNewStream v) := by
  unfold orNewStream
  split
  · exact .self hw (valStr_lt hv ‹_›)
  · exact newNilStream_res hw

theorem orNewStream_content (v : Val) :
    (w.orNewStream v).1.strContent (w.orNewStream v).2 = strOf (cval w v) := by
  unfold orNewStream
  cases v with
  | int n => exact strContent_newNilStream w
  | str o =>
    cases o with
    | none => exact strContent_newNilStream w
    | some q => rfl

structure CombOp (op : World → Nat → Nat → World × Nat) (opS : List Int → List Int → List Int) : Prop where
  res : ∀ w p q, Wf w → p < w.strs.length → q < w.strs.length → StrRes w (op w p q)
  content : ∀ w p q, Wf w → p < w.strs.length → q < w.strs.length → (w.strHdr q).len > 0 →
    (op w p q).1.strContent (op w p q).2 = opS (w.strContent p) (w.strContent q)

theorem extendOp : CombOp (fun w a b => w.strExtend a [some b]) (· ++ ·) where
  res _ _ _ hw ha _ := strExtend_res hw ha _
  content w _ _ _ _ _ _ := strContent_newStream w _ _

theorem interOp : CombOp (fun w a b => w.strInter a (some b)) Spec.inter where
  res _ a _ hw _ _ := strInter_res hw a _
  content w a b _ _ _ h := by
    simp only [strInter, Nat.ne_of_gt h, if_false]
    exact strContent_newStream _ _ _

theorem minusOp : CombOp (fun w a b => w.strMinus a (some b)) Spec.minus where
  res _ _ _ hw ha _ := strMinus_res hw ha _
  content w a b _ _ _ h := by
    simp only [strMinus, Nat.ne_of_gt h, if_false]
    exact strContent_newStream _ _ _

/-- the per-key step shared by Union / Intersection / MinusStreams (`for k, v := range … { if input[k] is a
    non-empty stream { result[k] = v.op(input[k]) } }`, as the three operations of `C04World` spell it out) -/
@[reducible] def combineStep (op : World → Nat → Nat → World × Nat) (m₂ : AMap) (w : World) (k : Int) (v : Val) : World × Val :=
  match nonEmptyAt w m₂ k with
  | some v2 => let (w1, v1) := w.orNewStream v
               let (w2, r) := op w1 v1 v2; (w2, Val.str (some r))
  | none => (w, v)

theorem combine_step {m₂ : AMap} (hm₂ : mapOk w₀ m₂)
    {op : World → Nat → Nat → World × Nat} {opS : List Int → List Int → List Int} (h : CombOp op opS)
    (w : World) (k : Int) (v : Val) (g : Good w₀ w) (hv : valOk w v) :
    Good w (combineStep op m₂ w k v).1 ∧ valOk (combineStep op m₂ w k v).1 (combineStep op m₂ w k v).2 := by
  unfold combineStep
  split
  · rename_i v2 hne
    have h1 := orNewStream_res g.wf hv
    have h2 := h.res _ _ v2 h1.1.wf h1.2
      (Nat.lt_of_lt_of_le (nonEmptyAt_lt (mapOk_grow g.le.grow hm₂) hne) h1.1.le.strs.length_le)
    exact ⟨h1.1.trans h2.1, h2.2⟩
  · exact ⟨Good.refl g.wf, hv⟩

theorem combine_content {w₀ : World} (hw₀ : Wf w₀) {m₂ : AMap} (hm₂ : mapOk w₀ m₂)
    (op : World → Nat → Nat → World × Nat) (opS : List Int → List Int → List Int)
    (hop : ∀ w p q, Wf w → p < w.strs.length → q < w.strs.length → StrRes w (op w p q))
    (hopc : ∀ w p q, Wf w → p < w.strs.length → q < w.strs.length → (w.strHdr q).len > 0 →
      (op w p q).1.strContent (op w p q).2 = opS (w.strContent p) (w.strContent q))
    (w : World) (k : Int) (v : Val) (g : Good w₀ w) (hv : valOk w v) :
    let r := (match nonEmptyAt w m₂ k with
      | some v2 => let (w1, v1) := w.orNewStream v
                   let (w2, r) := op w1 v1 v2; (w2, Val.str (some r))
      | none => (w, v))
    cval r.1 r.2 = combineC opS (entriesOf w₀ m₂) k (cval w v) := by
  simp only
  have hne := nonEmptyAt_entries hw₀ m₂ k
  rw [← nonEmptyAt_good g hm₂ k] at hne
  unfold combineC
  rw [← hne]
  cases hq : nonEmptyAt w m₂ k with
  | none => rfl
  | some v2 =>
    have hv2 := nonEmptyAt_lt (mapOk_grow g.le.grow hm₂) hq
    have hv2₀ : v2 < w₀.strs.length := nonEmptyAt_lt hm₂ (nonEmptyAt_good g hm₂ k ▸ hq)
    have h1 := orNewStream_res g.wf hv
    have hlen : ((w.orNewStream v).1.strHdr v2).len > 0 := by
      rw [strHdr_le h1.1.le hv2]; exact (nonEmptyAt_some hq).2
    simp only [Option.map_some, cval]
    rw [hopc _ _ _ h1.1.wf h1.2 (Nat.lt_of_lt_of_le hv2 h1.1.le.strs.length_le) hlen, orNewStream_content,
      strContent_le g.wf h1.1.le hv2, strContent_le hw₀ g.le hv2₀]
    rfl

theorem mapCombine (hw₀ : Wf w₀) {m₂ : AMap} (hm₂ : mapOk w₀ m₂)
    {op : World → Nat → Nat → World × Nat} {opS : List Int → List Int → List Int} (h : CombOp op opS)
    (m : AMap) (w : World) (g : Good w₀ w) (hm : mapOk w m) :
    let r := mapEntriesM (combineStep op m₂) w m
    (Good w r.1 ∧ mapOk r.1 r.2) ∧
      entriesOf r.1 r.2 = (entriesOf w m).map (fun kv => (kv.1, combineC opS (entriesOf w₀ m₂) kv.1 kv.2)) :=
  ⟨mapEntriesM_res _ (combine_step hm₂ h) m w g hm,
    mapEntriesM_entries _ _ (combine_step hm₂ h) (combine_content hw₀ hm₂ op opS h.res h.content) m w g hm⟩

theorem newSet_after (h : Good w w' ∧ mapOk w' m) :
    SetRes w (w'.newSet m) ∧ entriesOf (w'.newSet m).1 ((w'.newSet m).1.setMap (w'.newSet m).2) = entriesOf w' m :=
  ⟨.after h.1 (newSet_res h.1.wf h.2), setMap_newSet_entries h.1.wf h.2⟩

theorem entriesOf_isEmpty (w : World) (m : AMap) : (entriesOf w m).isEmpty = m.isEmpty := by
  cases m <;> rfl

theorem cloneStep (hw : Wf w) (hv : valOk w v) :
    let r := (match valStr v with
      | some q => let (w', c) := w.strClone q; (w', Val.str (some c))
      | none => (w, v))
    (Good w r.1 ∧ valOk r.1 r.2) ∧ cval r.1 r.2 = cval w v := by
  cases v with
  | int n => exact ⟨⟨Good.refl hw, hv⟩, rfl⟩
  | str o => cases o with
    | none => exact ⟨⟨Good.refl hw, hv⟩, rfl⟩
    | some q => exact ⟨strClone_res hw q, congrArg CVal.str (strClone_content w q)⟩

theorem cloneEntries_spec (hw : Wf w) (hm : mapOk w m) :
    (Good w (w.cloneEntries m).1 ∧ mapOk (w.cloneEntries m).1 (w.cloneEntries m).2) ∧
      entriesOf (w.cloneEntries m).1 (w.cloneEntries m).2 = entriesOf w m :=
  ⟨mapEntriesM_res _ (fun _ _ _ g hv => (cloneStep g.wf hv).1) m w (Good.refl hw) hm,
    (mapEntriesM_entries _ (fun _ c => c) (fun _ _ _ g hv => (cloneStep g.wf hv).1)
      (fun _ _ _ g hv => (cloneStep g.wf hv).2) m w (Good.refl hw) hm).trans (by simp)⟩

theorem ssClone_spec (hw : Wf w) (p : Nat) :
    SetRes w (w.ssClone p) ∧
      entriesOf (w.ssClone p).1 ((w.ssClone p).1.setMap (w.ssClone p).2) = entriesOf w (w.setMap p) :=
  have h := cloneEntries_spec hw (setMap_ok hw p)
  ⟨(newSet_after h.1).1, (newSet_after h.1).2.trans h.2⟩

theorem ssInter_some (hw : Wf w) (p q : Nat) :
    SetRes w (w.ssInter p (some q)) ∧
    entriesOf (w.ssInter p (some q)).1 ((w.ssInter p (some q)).1.setMap (w.ssInter p (some q)).2)
      = if (entriesOf w (w.setMap q)).isEmpty then []
        else (Spec.interByKey (entriesOf w (w.setMap p)) (entriesOf w (w.setMap q))).map
          (fun kv => (kv.1, combineC Spec.inter (entriesOf w (w.setMap q)) kv.1 kv.2)) := by
  rw [entriesOf_isEmpty]
  simp only [ssInter]
  split
  · exact newSet_after ⟨Good.refl hw, mapOk_nil w⟩
  · have h := mapCombine hw (setMap_ok hw q) interOp (Spec.interByKey (w.setMap p) (w.setMap q)) w (Good.refl hw)
      (mapOk_filter (setMap_ok hw p) _)
    generalize mapEntriesM _ w _ = r at h ⊢
    exact ⟨(newSet_after h.1).1, (newSet_after h.1).2.trans (h.2.trans (by rw [entriesOf_interByKey]))⟩

theorem ssMinusStreams_some (hw : Wf w) (p q : Nat) :
    SetRes w (w.ssMinusStreams p (some q)) ∧
    entriesOf (w.ssMinusStreams p (some q)).1
        ((w.ssMinusStreams p (some q)).1.setMap (w.ssMinusStreams p (some q)).2)
      = if (entriesOf w (w.setMap q)).isEmpty then []
        else (entriesOf w (w.setMap p)).map
          (fun kv => (kv.1, combineC Spec.minus (entriesOf w (w.setMap q)) kv.1 kv.2)) := by
  rw [entriesOf_isEmpty]
  simp only [ssMinusStreams]
  split
  · exact newSet_after ⟨Good.refl hw, mapOk_nil w⟩
  · have hc := cloneEntries_spec hw (setMap_ok hw p)
    have h := mapCombine hw (setMap_ok hw q) minusOp _ _ hc.1.1 hc.1.2
    generalize mapEntriesM _ _ _ = r at h ⊢
    exact ⟨(newSet_after ⟨hc.1.1.trans h.1.1, h.1.2⟩).1,
      (newSet_after h.1).2.trans (h.2.trans (by rw [hc.2]))⟩

/-- what `Union` of StreamSets stores per key, on element sequences: the argument wins (`Merge`), except that where
    BOTH sides have the key and the argument's stream is non-empty the receiver's stream is extended by it -/
def unionC (e₁ e₂ : List (Int × CVal)) : List (Int × CVal) :=
  (Spec.merge e₁ e₂).map (fun kv => match nonEmptyC e₂ kv.1, Spec.lookup kv.1 e₁ with
    | some l2, some c1 => (kv.1, CVal.str (strOf c1 ++ l2))
    | _, _ => kv)

theorem ssUnion_some (hw : Wf w) (hp : p < w.sets.length) (q : Nat) :
    SetRes w (w.ssUnion p (some q)) ∧
    entriesOf (w.ssUnion p (some q)).1 ((w.ssUnion p (some q)).1.setMap (w.ssUnion p (some q)).2)
      = if (entriesOf w (w.setMap q)).isEmpty then entriesOf w (w.setMap p)
        else unionC (entriesOf w (w.setMap p)) (entriesOf w (w.setMap q)) := by
  rw [entriesOf_isEmpty]
  simp only [ssUnion]
  split
  · exact ⟨.self hw hp, rfl⟩
  · have hm₁ := setMap_ok hw p
    have hm₂ := setMap_ok hw q
    have h := mapCombine hw hm₂ extendOp (w.setMap p) w (Good.refl hw) hm₁
    generalize mapEntriesM _ w (w.setMap p) = r at h ⊢
    obtain ⟨w1, ext⟩ := r
    obtain ⟨⟨g, hext⟩, hent⟩ := h
    simp only at g hext hent ⊢
    rw [setMap_le hw g.le hp]
    refine ⟨(newSet_after ⟨g, ?hM⟩).1, (newSet_after ⟨g, ?hM⟩).2.trans ?_⟩
    case hM =>
      intro kv hkv
      obtain ⟨a, ha, rfl⟩ := List.mem_map.mp hkv
      split
      · exact lookup_ok hext ‹_›
      · exact mapOk_merge (mapOk_grow g.le.grow hm₁) (mapOk_grow g.le.grow hm₂) a ha
    -- both sides are maps over the merged map: compare them entry by entry
    have hmg : Spec.merge (entriesOf w (w.setMap p)) (entriesOf w (w.setMap q))
        = (Spec.merge (w.setMap p) (w.setMap q)).map (fun kv => (kv.1, cval w1 kv.2)) := by
      rw [merge_map_val]
      exact congr (congrArg _ (entriesOf_le hw g.le hm₁).symm) (entriesOf_le hw g.le hm₂).symm
    rw [unionC, hmg, entriesOf, List.map_map, List.map_map]
    apply List.map_congr_left
    intro kv _
    have hne : (nonEmptyAt w1 (w.setMap q) kv.1).map w.strContent = nonEmptyC (entriesOf w (w.setMap q)) kv.1 := by
      rw [nonEmptyAt_good g hm₂]; exact nonEmptyAt_entries hw _ _
    have hlk : (Spec.lookup kv.1 ext).map (cval w1)
        = (Spec.lookup kv.1 (entriesOf w (w.setMap p))).map (combineC (· ++ ·) (entriesOf w (w.setMap q)) kv.1) := by
      rw [← lookup_listMap_val, ← lookup_listMap_kval]; exact congrArg _ hent
    simp only [Function.comp, ← hne]
    cases hA : nonEmptyAt w1 (w.setMap q) kv.1 with
    | none => rfl
    | some v2 =>
      -- the key is in `ext` exactly if the receiver has it; then `ext` holds the extended stream
      cases hB : Spec.lookup kv.1 ext <;> cases hc : Spec.lookup kv.1 (entriesOf w (w.setMap p)) <;>
        rw [hB, hc] at hlk
      · rfl
      · cases hlk
      · cases hlk
      · rw [Option.some.inj hlk, combineC, ← hne, hA]; rfl

end FpgoVerif.C04
