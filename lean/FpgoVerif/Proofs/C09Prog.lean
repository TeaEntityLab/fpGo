import FpgoVerif.Proofs.C09Inv
/-! C09 — the progress invariant, once for both configurations of the property's quantifier:
    the repaired expiry with workerSizeStandBy ≥ 1, and workerBatchSize ≥ 1 with "an idle-expiry longer than the
    run", i.e. executions without `wExpire` steps (`ReachNE`); workerSizeMaximum ≥ 1 in both.

    With standby = 0 the spawn loop's target can be 0 (empty queue at its two `Count()` reads, or — batch ≥ 2 —
    a queue that grew between the reads: n1 = 1, n2 = 2, batch = 2 gives 1/2 + (2 % 2 > 0) = 0).  The invariant
    therefore remembers, while the loop sits between the two reads, that the first read is still accurate unless
    somebody else is already responsible for the queued job (a worker, a pending token, a Schedule about to post it). -/
namespace FpgoVerif.C09

theorem self_mem_set {α : Type} {l : List α} {i : Nat} {a a' : α} (hl : l[i]? = some a) : a' ∈ l.set i a' :=
  List.mem_set (lt_of_getElem? hl) a'

theorem exists_set {α : Type} {P : α → Prop} {l : List α} {i : Nat} {a : α} (a' : α) (hl : l[i]? = some a)
    (h : ∃ x ∈ l, P x) (hp : P a → P a') : ∃ x ∈ l.set i a', P x := by
  obtain ⟨x, hx, hpx⟩ := h
  obtain ⟨k, hk⟩ := List.getElem?_of_mem hx
  by_cases hki : i = k
  · subst hki
    rw [hl] at hk; cases hk
    exact ⟨a', self_mem_set hl, hp hpx⟩
  · exact ⟨x, List.mem_of_getElem? (i := k) (by rw [List.getElem?_set_ne hki]; exact hk), hpx⟩

/-- the worker will come back to the select (it is not leaving), or it is dying on a panic and will post
    the spawn token -/
def helpW : WPc → Bool
  | .top | .sel | .got _ | .run _ | .aft _ | .pan _ _ | .exitDec true | .exitTok => true
  | _ => false
/-- a Schedule call that has offered and is about to post the spawn token -/
def subTok (sb : Sub) : Bool :=
  match sb.pc with
  | .token _ => true
  | _ => false
inductive ReachNE (c : Cfg) : St → Prop
  | init : ReachNE c init
  | step {s t : St} {a : Act} : ReachNE c s → (∀ w, a ≠ .wExpire w) → step c s a = some t → ReachNE c t

theorem ReachNE.reach {c : Cfg} {s : St} (h : ReachNE c s) : Reach c s := by
  induction h with
  | init => exact Reach.init
  | step _ _ hs ih => exact Reach.step ih hs

/-- as `spWill`, but between its two `Count()` reads the loop only counts while its first read is still the length
    of the queue (then both reads agree and the target of a non-empty queue is positive) -/
def spWill0 (s : St) : Bool :=
  match s.sp with
  | .awake | .cnt1 => true
  | .cnt2 n1 => decide (n1 = s.queue.length)
  | .computed e => decide (1 ≤ e)
  | .enter e => decide (1 ≤ e)
  | .loop i e => decide (i < e)
  | _ => false

def Good0 (s : St) : Prop :=
  (∃ w ∈ s.workers, helpW w = true) ∨ s.token = true ∨ (∃ sb ∈ s.subs, subTok sb = true) ∨ spWill0 s = true

instance (s : St) : Decidable (Good0 s) := by unfold Good0; exact inferInstance

/-- the spawn loop is awake and has not computed its target yet, or has computed a positive one: it will reach
    generateWorkerWithMaximum -/
def spWill : SpPc → Bool
  | .awake | .cnt1 | .cnt2 _ => true
  | .computed e => decide (1 ≤ e)
  | .enter e => decide (1 ≤ e)
  | .loop i e => decide (i < e)
  | _ => false

def Good (s : St) : Prop :=
  (∃ w ∈ s.workers, helpW w = true) ∨ s.token = true ∨ (∃ sb ∈ s.subs, subTok sb = true) ∨ spWill s.sp = true

instance (s : St) : Decidable (Good s) := by unfold Good; exact inferInstance

theorem Good0.good {s : St} (h : Good0 s) : Good s := by
  refine h.imp_right (.imp_right (.imp_right fun h => ?_))
  unfold spWill0 at h
  split at h <;> simp_all [spWill]

/-- Inductive for every configuration with max ≥ 1 and (standby ≥ 1 with the repaired expiry, or batch ≥ 1 as long
    as no expiry timer fires).  `clc`, `qcl`: the closer and the queue's Close only act on a closed pool; `spE`: with
    a standby worker the computed target is never 0. -/
structure InvG0 (c : Cfg) (s : St) : Prop where
  noX : s.closed = false → ∀ w ∈ s.workers, w ≠ .exitDec false
  clc : s.cl ≠ 0 → s.closed = true
  qcl : s.qclosed = true → s.closed = true
  spE : 1 ≤ c.standby → ∀ e, s.sp = .computed e ∨ s.sp = .enter e → 1 ≤ e
  spL : ∀ i e, s.sp = .loop i e → i < e
  good : s.closed = false → s.queue ≠ [] → Good0 s

/-- `InvG0` for standby ≥ 1, with `Good` for `Good0` (`reach_invG`) -/
structure InvG (s : St) : Prop where
  noX : s.closed = false → ∀ w ∈ s.workers, w ≠ .exitDec false
  spE : ∀ e, s.sp = .computed e ∨ s.sp = .enter e → 1 ≤ e
  spL : ∀ i e, s.sp = .loop i e → i < e
  good : s.closed = false → s.queue ≠ [] → Good s

theorem Good0.setSp {s : St} {p : SpPc} (h : Good0 s) (hsp : spWill0 s = true → Good0 { s with sp := p }) :
    Good0 { s with sp := p } := by
  rcases h with h | h | h | h
  · exact .inl h
  · exact .inr (.inl h)
  · exact .inr (.inr (.inl h))
  · exact hsp h

theorem wsum_pos {f : WPc → Nat} {l : List WPc} (h : 1 ≤ wsum f l) : ∃ w ∈ l, 1 ≤ f w := by
  induction l with
  | nil => simp [wsum] at h
  | cons x l ih =>
    simp only [wsum] at h
    by_cases hx : 1 ≤ f x
    · exact ⟨x, by simp, hx⟩
    · obtain ⟨w, hw, hf⟩ := ih (by omega)
      exact ⟨w, by simp [hw], hf⟩

theorem alive_help {c : Cfg} {s : St} (hw : InvW c s) (hx : ∀ w ∈ s.workers, w ≠ .exitDec false)
    (h1 : 1 ≤ s.count) : ∃ w ∈ s.workers, helpW w = true := by
  rw [hw.cnt] at h1
  obtain ⟨w, hm, ha⟩ := wsum_pos h1
  refine ⟨w, hm, ?_⟩
  have := hx w hm
  cases w <;> simp [alive, helpW] at *
  case exitDec p => cases p <;> simp at *

/-- trySpawn's target is positive when a standby worker is configured, or when batching is on and both `Count()`
    reads returned the same positive length — whatever the jam clause says -/
theorem expected_pos {c : Cfg} {n1 n2 count busy : Nat} {jam : Bool}
    (h : 1 ≤ c.standby ∨ 1 ≤ c.batch ∧ n2 = n1 ∧ 1 ≤ n1) : 1 ≤ expected c n1 n2 count busy jam := by
  unfold expected
  extract_lets e0 e1 e2
  have h0 : 1 ≤ c.standby ∨ 1 ≤ e0 := by
    rcases h with h | ⟨hb, rfl, hn⟩
    · exact .inl h
    · right
      simp only [e0]
      rw [if_pos (by omega)]
      by_cases hlt : n2 < c.batch
      · rw [if_pos (by rw [Nat.mod_eq_of_lt hlt]; omega)]; exact Nat.le_add_left 1 _
      · exact Nat.le_trans ((Nat.le_div_iff_mul_le (by omega)).mpr (by omega)) (Nat.le_add_right _ _)
  have h1 : 1 ≤ e1 := by simp only [e1]; split <;> omega
  have h2 : 1 ≤ e2 := by simp only [e2]; split <;> omega
  split <;> omega

theorem noX_set {l : List WPc} {i : Nat} {w' : WPc} (h : ∀ x ∈ l, x ≠ .exitDec false) (hw' : w' ≠ .exitDec false) :
    ∀ x ∈ l.set i w', x ≠ .exitDec false :=
  fun x hm => (List.mem_or_eq_of_mem_set hm).elim (h x) (fun e => e ▸ hw')

/-- Every worker step of an open pool leaves a helper behind, or the token (the worker that died on a panic), except
    the retirement of an idle worker — where the repaired expiry with standby ≥ 1 keeps another worker alive — and
    the exit of a worker that decided to leave earlier, which the invariant rules out while the pool is open. -/
theorem stepW_invG0 {c : Cfg} {s t : St} {a : Act}
    (hx : 1 ≤ c.standby ∧ c.atomicExpiry = true ∨ ∀ k, a ≠ .wExpire k)
    (h : stepW c s a = some t) (hw0 : Inv c s) (hi : InvG0 c s) : InvG0 c t := by
  have hwt := (inv_stepW h hw0).W
  obtain ⟨i, w, hw, hst⟩ := stepW_cases h
  cases hst
  case exit hcl =>
    have hn : ¬ s.closed = false := by simp [hcl]
    exact { hi with noX := fun hc => absurd hc hn, good := fun hc => absurd hc hn }
  case retireLater hna =>
    rcases hx with ⟨_, hat⟩ | hne
    · exact absurd hat hna
    · exact absurd rfl (hne i)
  -- everywhere else the worker does not become one that leaves; what is left to show is `Good0`
  all_goals refine { hi with noX := fun hc => noX_set (hi.noX hc) nofun, good := fun hc hq => ?_ }
  case retire =>
    rcases hx with ⟨hs, _⟩ | hne
    · have := hw0.W.cap
      exact .inl (alive_help hwt (noX_set (hi.noX hc) nofun) (by show 1 ≤ s.count - 1; omega))
    · exact absurd rfl (hne i)
  case leave => exact absurd rfl (hi.noX hc _ (List.mem_of_getElem? hw))
  case token => exact .inr (.inl rfl)
  -- the worker itself is the helper afterwards; after `die` it is so as the poster of the token
  all_goals exact .inl ⟨_, self_mem_set hw, rfl⟩

theorem Good0.setS {s : St} {i : Nat} {sb : Sub} (sb' : Sub) (h : Good0 s) (hsb : s.subs[i]? = some sb)
    (hp : subTok sb = true → subTok sb' = true) : Good0 (setS s i sb') :=
  h.imp_right (.imp_right (.imp_left fun h => exists_set sb' hsb h hp))

/-- A call that has offered becomes the poster of the token, and posting it makes the token pending; every other
    step of a call keeps whatever `Good0` rested on. -/
theorem stepSub_invG0 {c : Cfg} {s t : St} {a : Act} (h : stepSub c s a = some t) (hi : InvG0 c s) : InvG0 c t := by
  rcases stepSub_cases h with ⟨sb, _, rfl⟩ | ⟨i, sb, hs, hst⟩
  · exact { hi with
      good := fun hc hq => (hi.good hc hq).imp_right
        (.imp_right (.imp_left fun ⟨x, hm, hx⟩ => ⟨x, List.mem_append_left _ hm, hx⟩)) }
  · cases hst <;> refine { hi with good := fun hc hq => ?_ }
    case offerClosed | offerFull | accept => exact .inr (.inr (.inl ⟨_, self_mem_set hs, rfl⟩))
    case retryFirst | retry | done | fail => exact .inr (.inl rfl)
    case deadline => exact (hi.good hc hq).setS _ hs id
    all_goals exact (hi.good hc hq).setS _ hs (by simp [subTok, *])

/-- after a generateWorkerWithMaximum(e) with e ≥ 1 an open pool has a helper: the new worker, or, if nothing is
    spawned, one that is alive (workerCount ≥ 1 then) -/
theorem genWorker_help {c : Cfg} {s : St} (e : Nat) (hm : 1 ≤ c.max) (he : 1 ≤ e) (hw : InvW c s)
    (hx : ∀ w ∈ s.workers, w ≠ WPc.exitDec false) : ∃ w ∈ (genWorker c s e).workers, helpW w = true := by
  unfold genWorker
  split
  · exact alive_help hw hx (by omega)
  · exact ⟨.top, by simp, rfl⟩

theorem genWorker_invG0 {c : Cfg} {s : St} (m : Nat) (hi : InvG0 c s) : InvG0 c (genWorker c s m) := by
  rcases genWorker_eq c s m with eq | ⟨_, eq⟩ <;> rw [eq]
  · exact hi
  · exact { hi with
      noX := fun ho w hm => (List.mem_append.mp hm).elim (hi.noX ho w) (fun hm => by simp at hm; simp [hm])
      good := fun ho hq => (hi.good ho hq).imp_left fun ⟨w, hm, hw⟩ => ⟨w, List.mem_append_left _ hm, hw⟩ }

/-- The spawn loop, action by action: woken by the token it is `spWill0` until it has computed its target; a target
    computed from an accurate read of a non-empty queue (or with a standby worker) is positive; a positive target
    that spawns nothing means a worker is alive; and a spawn leaves a worker alive. -/
theorem stepPool_invG0 {c : Cfg} {s t : St} {a : Act} (hm : 1 ≤ c.max) (hc : 1 ≤ c.standby ∨ 1 ≤ c.batch)
    (h : stepPool c s a = some t) (hw0 : Inv c s) (hi : InvG0 c s) : InvG0 c t := by
  have hqc : s.closed = false → s.qclosed = false := fun ho =>
    Bool.eq_false_iff.mpr fun hq => by simp [hi.qcl hq] at ho
  have asleep : ∀ {e}, s.sp = .computed e ∨ s.sp = .enter e → ¬ s.count < e → InvG0 c { s with sp := .sleep } :=
    fun hsp hge => { hi with
      spE := nofun
      spL := nofun
      good := fun ho hq => (hi.good ho hq).setSp fun hsw => .inl
        (alive_help (s := s) hw0.W (hi.noX ho) (by rcases hsp with hsp | hsp <;> simp [spWill0, hsp] at hsw <;> omega)) }
  -- in each case `step_split h` leaves the branch conditions of `stepPool` as the last hypotheses, in source order
  cases a <;> simp only [stepPool] at h
  case closeFlag =>
    step_split h
    exact ⟨nofun, fun _ => rfl, fun _ => rfl, hi.spE, hi.spL, nofun⟩
  case closeQueue keep =>
    have hcl : s.cl = 1 → s.closed = true := fun h1 => hi.clc (by omega)
    step_split h <;> rename_i h1 _ <;>
      exact ⟨fun ho => by simp [hcl h1] at ho, fun _ => hcl h1, fun _ => hcl h1, hi.spE, hi.spL,
        fun ho => by simp [hcl h1] at ho⟩
  case spWake =>
    step_split h
    exact { hi with spE := nofun, spL := nofun, good := fun _ _ => .inr (.inr (.inr rfl)) }
  case spCheck =>
    step_split h
    · next hcl => exact { hi with spE := nofun, spL := nofun, good := fun ho => by simp [hcl] at ho }
    · exact { hi with spE := nofun, spL := nofun, good := fun _ _ => .inr (.inr (.inr rfl)) }
  case spCnt1 =>
    step_split h
    exact { hi with spE := nofun, spL := nofun, good :=
      fun ho _ => .inr (.inr (.inr (by simp [spWill0, qcount, hqc ho]))) }
  case spCnt2 jam =>
    step_split h
    next n1 hsp =>
    have pos : 1 ≤ c.standby ∨ (s.closed = false ∧ s.queue ≠ [] ∧ spWill0 s = true) →
        1 ≤ expected c n1 (qcount s) s.count s.busy jam := fun hh => by
      apply expected_pos
      rcases hh with hs | ⟨ho, hq, hsw⟩
      · exact .inl hs
      · have hn1 : n1 = s.queue.length := by simpa [spWill0, hsp] using hsw
        rcases hc with hs | hb
        · exact .inl hs
        · exact .inr ⟨hb, by simp [qcount, hqc ho, hn1], hn1 ▸ List.length_pos_iff.mpr hq⟩
    refine { hi with spE := fun hs e he => ?_, spL := nofun, good := fun ho hq => ?_ }
    · simp at he; exact he ▸ pos (.inl hs)
    · exact (hi.good ho hq).setSp
        fun hsw => .inr (.inr (.inr (by simp [spWill0]; exact pos (.inr ⟨ho, hq, hsw⟩))))
  case spRead =>
    step_split h
    · next e hsp hlt =>
      exact { hi with
        spE := fun hs e' he => by simp at he; exact he ▸ hi.spE hs e (.inl hsp)
        spL := nofun
        good := fun _ _ => .inr (.inr (.inr (by simp [spWill0]; omega))) }
    · next e hsp hge => exact asleep (.inl hsp) hge
  case spInit =>
    step_split h
    · next e hsp hlt =>
      exact { hi with
        spE := nofun
        spL := fun i e' he => by simp at he; omega
        good := fun _ _ => .inr (.inr (.inr (by simp [spWill0]; exact hlt))) }
    · next e hsp hge => exact asleep (.inr hsp) hge
  case spGen =>
    have key : ∀ {i e : Nat} (p : SpPc), i < e → (∀ e', ¬(p = .computed e' ∨ p = .enter e')) →
        (∀ i' e', p = .loop i' e' → i' < e') → InvG0 c { genWorker c s e with sp := p } :=
      fun {i e} p hlt hE hL => { genWorker_invG0 e hi with
        spE := fun _ e' he => (hE e' he).elim
        spL := hL
        good := fun ho _ => .inl (genWorker_help e hm (by omega) hw0.W (hi.noX (genWorker_closed c s e ▸ ho))) }
    step_split h
    · exact key _ ‹_› (by simp) (fun i' e' he => by simp at he; omega)
    · exact key _ ‹_› (by simp) nofun
  case spSleep =>
    step_split h
    next hsp =>
    exact { hi with
      spE := nofun
      spL := nofun
      good := fun ho hq => (hi.good ho hq).setSp fun hsw => by simp [spWill0, hsp] at hsw }
  case gen m =>
    injection h with h; subst h
    exact genWorker_invG0 m hi
  case notify =>
    step_split h
    · exact { hi with good := fun _ _ => .inr (.inl rfl) }
    · exact hi
  case setHandler on =>
    injection h with h; subst h
    exact { hi with }
  all_goals simp at h

theorem step_invG0 {c : Cfg} {s t : St} {a : Act} (hm : 1 ≤ c.max)
    (hx : 1 ≤ c.standby ∧ c.atomicExpiry = true ∨ 1 ≤ c.batch ∧ ∀ k, a ≠ .wExpire k)
    (h : step c s a = some t) (hw : Inv c s) (hi : InvG0 c s) : InvG0 c t := by
  rcases step_cases h with h | h | h
  · exact stepSub_invG0 h hi
  · exact stepPool_invG0 hm (hx.imp And.left And.left) h hw hi
  · exact stepW_invG0 (hx.imp_right And.right) h hw hi

theorem init_invG0 (c : Cfg) : InvG0 c init :=
  ⟨nofun, fun h => (h rfl).elim, nofun, nofun, nofun, fun _ hq => (hq rfl).elim⟩

theorem reach_invG0 {c : Cfg} {s : St} (hs : 1 ≤ c.standby) (hm : 1 ≤ c.max) (hx : c.atomicExpiry = true)
    (h : Reach c s) : InvG0 c s := by
  induction h with
  | init => exact init_invG0 c
  | step hr hst ih => exact step_invG0 hm (.inl ⟨hs, hx⟩) hst (inv_reach hr) ih

theorem reachNE_invG0 {c : Cfg} {s : St} (hb : 1 ≤ c.batch) (hm : 1 ≤ c.max) (h : ReachNE c s) : InvG0 c s := by
  induction h with
  | init => exact init_invG0 c
  | step hr hne hst ih => exact step_invG0 hm (.inr ⟨hb, hne⟩) hst (inv_reach hr.reach) ih

theorem reach_invG {c : Cfg} {s : St} (hs : 1 ≤ c.standby) (hm : 1 ≤ c.max) (hx : c.atomicExpiry = true)
    (h : Reach c s) : InvG s :=
  have g := reach_invG0 hs hm hx h
  { g with spE := g.spE hs, good := fun ho hq => (g.good ho hq).good }

theorem runActs_ind {c : Cfg} {P : St → Prop} (acts : List Act) {s t : St}
    (hP : ∀ a ∈ acts, ∀ {s t}, P s → step c s a = some t → P t) (hs : P s) (h : runActs c s acts = some t) : P t := by
  induction acts generalizing s with
  | nil => simp [runActs] at h; exact h ▸ hs
  | cons a as ih =>
    simp only [runActs] at h
    split at h
    · next u hu => exact ih (fun b hb => hP b (by simp [hb])) (hP a (by simp) hs hu) h
    · simp at h

theorem reach_runActs {c : Cfg} {s t : St} (acts : List Act) (hr : Reach c s) (h : runActs c s acts = some t) :
    Reach c t :=
  runActs_ind acts (fun _ _ _ _ => Reach.step) hr h

theorem reachNE_runActs {c : Cfg} {s t : St} (acts : List Act) (hne : ∀ a ∈ acts, ∀ w, a ≠ .wExpire w)
    (hr : ReachNE c s) (h : runActs c s acts = some t) : ReachNE c t :=
  runActs_ind acts (fun a ha _ _ hr => ReachNE.step hr (hne a ha)) hr h

theorem panic_exit_run {c : Cfg} {s : St} {w j : Nat} (v : Nat) (hw : s.workers[w]? = some (.run j)) :
    runActs c s [.wPanic w v, .wHandler w, .wExitDec w, .wExitTok w] = some
      { s with workers := s.workers.set w .gone, count := s.count - 1, busy := s.busy - 1, token := true,
               finished := j :: s.finished, panicLog := (j, v) :: s.panicLog,
               handlerLog := if s.handler then (j, v) :: s.handlerLog else s.handlerLog,
               unreported := if s.handler then s.unreported else (j, v) :: s.unreported } := by
  -- each step sets slot `w` and keeps the length of the worker list, so the next step finds at `w` what was just put there
  have g : ∀ (l : List WPc) (x : WPc), l.length = s.workers.length → (l.set w x)[w]? = some x :=
    fun l x h => by simp [h, lt_of_getElem? hw]
  simp only [runActs, step, stepW, hw, setW]
  rw [g _ _ rfl]
  cases s.handler
  all_goals
    simp only [Bool.false_eq_true, if_false, if_true]
    rw [g _ _ (by simp)]
    simp only []
    rw [g _ _ (by simp)]
    simp

end FpgoVerif.C09
