import FpgoVerif.Model.C15Mailbox
import FpgoVerif.Proofs.C15Tac
/-! Handler/Actor mailbox with its closing goroutine: the invariant, its preservation by every atom, reachability,
    progress. -/
namespace FpgoVerif.C15.Mb

theorem gstep_some {s pc ch s' nx} (h : gstep s pc ch = some (s', nx)) :
    0 < s.cnt (kind pc) ∧ ∃ s1, step s pc = some (s1, nx) ∧ s' = { s1 with cnt := move s1.cnt (kind pc) nx } := by
  unfold gstep at h
  split at h
  · cases h
  · rename_i hc
    split at h <;> cases h
    rename_i hs
    exact ⟨Nat.pos_of_ne_zero hc, _, hs, rfl⟩

structure Inv (s : St) : Prop where
  one : s.cnt .c0 + s.cnt .c1 ≤ 1
  started : s.closeStarted = false → s.cnt .c0 + s.cnt .c1 = 0
  closedNoCloser : s.chClosed = true → s.cnt .c0 + s.cnt .c1 = 0
  c1flag : 0 < s.cnt .c1 → s.flag = true
  doneFlag : s.closeDone = true → s.flag = true
  doneClosed : s.closeDone = true → s.chClosed = true
  late0 : s.late = 0
  cons : s.cnt .r0 + s.cnt .r1 ≤ 1
  consExit : s.cnt .r0 + s.cnt .r1 = 0 → s.chClosed = true ∨ s.selfClosing = true
  selfCons : s.selfClosing = true → s.cnt .r0 + s.cnt .r1 = 0 ∧ 0 < s.cnt .c1
  startedDone : s.closeStarted = true → s.cnt .c0 + s.cnt .c1 = 0 → s.closeDone = true
  closedStarted : s.chClosed = true → s.closeStarted = true
  nopanic : s.recovers = true → s.panic = false

theorem inv_init (cap : Nat) (r : Bool) : Inv (init cap r) := by
  constructor <;> simp [init]

theorem inv_spawn {s s' pc} (h : spawn s pc = some s') (hi : Inv s) : Inv s' := by
  cases pc <;> simp only [spawn] at h <;> try (cases h; done)
  case p0 | wc => cases h; exact { hi with }
  case c0 =>
    split at h <;> cases h
    rename_i hcs
    have h0 := hi.started (Bool.eq_false_iff.2 hcs)
    exact { hi with
      one := by cnt_eval; omega
      started := fun h => by cases h
      closedNoCloser := fun h => absurd (hi.closedStarted h) hcs
      startedDone := fun _ h => by cnt_eval at h; omega
      closedStarted := fun _ => rfl }

theorem inv_step {s s' nx pc ch} (h : gstep s pc ch = some (s', nx)) (hi : Inv s) : Inv s' := by
  obtain ⟨hc, s1, hs, rfl⟩ := gstep_some h
  clear h
  cases pc <;> simp only [kind] at hc ⊢
  case p0 m =>
    simp only [step] at hs
    split at hs <;> cases hs
    · exact { hi with }
    · rename_i hf
      -- the check passed, so Close has not returned: nothing is counted as late
      have hd : s.closeDone = false := Bool.eq_false_iff.2 (mt hi.doneFlag hf)
      exact { hi with late0 := by simp only [hd]; exact hi.late0 }
  case p1 m =>
    simp only [step] at hs
    repeat' split at hs
    all_goals cases hs
    · exact { hi with }
    · rename_i hr
      -- the send on the closed channel panics, outside a recover scope only
      exact { hi with nopanic := fun h => absurd h hr }
    · exact { hi with }
  case c0 =>
    cases hs
    have h1 := hi.one
    exact { hi with
      one := by cnt_eval; omega
      started := fun h => by have := hi.started h; omega
      closedNoCloser := fun h => by have := hi.closedNoCloser h; omega
      c1flag := fun _ => rfl
      doneFlag := fun _ => rfl
      selfCons := fun h => by have := hi.selfCons h; omega
      startedDone := fun _ h => by cnt_eval at h }
  case c1 =>
    have h1 := hi.one
    have hf : s.flag = true := hi.c1flag hc
    have hcs : s.closeStarted = true := Bool.of_not_eq_false fun h => by have := hi.started h; omega
    -- close(ch) by the one closer, who leaves c1: whatever it does next, Close is over
    have close : ∀ (sc : Bool) (c : Kind → Nat), ¬sc = true → c .c0 + c .c1 = 0 → c .r0 + c .r1 ≤ 1 →
        Inv { s with chClosed := true, closeDone := true, selfClosing := sc, cnt := c } :=
      fun sc c hsc hz hcons => { hi with
        one := Nat.le_trans (Nat.le_of_eq hz) (Nat.zero_le 1)
        started := fun _ => hz
        closedNoCloser := fun _ => hz
        c1flag := fun _ => hf
        doneFlag := fun _ => hf
        doneClosed := fun _ => rfl
        cons := hcons
        consExit := fun _ => .inl rfl
        selfCons := fun h => absurd h hsc
        startedDone := fun _ _ => rfl
        closedStarted := fun _ => hcs }
    simp only [step] at hs
    repeat' split at hs
    all_goals cases hs
    · rename_i hcl
      -- a second close(ch): the one closer is still here, so the channel is open
      have := hi.closedNoCloser hcl; omega
    · rename_i hsc
      -- the loop goroutine, having closed its own mailbox from a callback, returns to the loop
      exact close false _ Bool.false_ne_true (by cnt_eval; omega) (by have := (hi.selfCons hsc).1; cnt_eval; omega)
    · rename_i hsc
      exact close _ _ hsc (by cnt_eval; omega) (by have := hi.cons; cnt_eval; omega)
  case r0 =>
    have h1 := hi.cons
    simp only [step] at hs
    repeat' split at hs
    all_goals cases hs
    · exact { hi with
        cons := by cnt_eval; omega
        consExit := fun h => by cnt_eval at h
        selfCons := fun h => by have := (hi.selfCons h).1; omega }
    · rename_i hcl
      exact { hi with
        cons := by cnt_eval; omega
        consExit := fun _ => .inl hcl
        selfCons := fun h => by have := (hi.selfCons h).1; omega }
  case r1 m =>
    have h1 := hi.cons
    simp only [step] at hs
    repeat' split at hs
    all_goals cases hs
    · rename_i hg
      -- a callback closes its own mailbox: the loop goroutine becomes the closer, past the flag
      simp only [Bool.and_eq_true, Bool.not_eq_true'] at hg
      have hcs := hg.2
      have h0 := hi.started hcs
      exact { hi with
        one := by cnt_eval; omega
        started := fun h => by cases h
        closedNoCloser := fun h => nomatch hcs.symm.trans (hi.closedStarted h)
        c1flag := fun _ => rfl
        doneFlag := fun _ => rfl
        cons := by cnt_eval; omega
        consExit := fun _ => .inr rfl
        selfCons := fun _ => by cnt_eval; omega
        startedDone := fun _ h => by cnt_eval at h
        closedStarted := fun _ => rfl }
    · exact { hi with
        cons := by cnt_eval; omega
        consExit := fun h => by cnt_eval at h; omega
        selfCons := fun h => by have := (hi.selfCons h).1; omega }
  case wc =>
    simp only [step] at hs
    split at hs <;> cases hs
    exact { hi with }

theorem inv_reach {cap r s} (h : Reach cap r s) : Inv s := by
  induction h with
  | init => exact inv_init cap r
  | spawn pc _ hs ih => exact inv_spawn hs ih
  | step pc ch _ hs ih => exact inv_step hs ih
  | gate _ ih => exact { ih with }

/-- `recovers` is a parameter of the system -/
theorem recovers_const {cap r s} (h : Reach cap r s) : s.recovers = r := by
  induction h with
  | init => rfl
  | spawn pc _ hs ih =>
    cases pc <;> simp only [spawn] at hs <;> try split at hs
    all_goals cases hs <;> exact ih
  | step pc ch _ hs ih =>
    obtain ⟨_, s1, hs1, rfl⟩ := gstep_some hs
    cases pc <;> simp only [step] at hs1 <;> repeat' split at hs1
    all_goals cases hs1 <;> exact ih
  | gate _ ih => exact ih

theorem gstep_of_isSome {s pc} (ch : Bool) (hc : 0 < s.cnt (kind pc)) (hs : (step s pc).isSome = true) :
    ∃ s' nx, gstep s pc ch = some (s', nx) := by
  unfold gstep
  rw [if_neg (Nat.ne_of_gt hc)]
  cases h : step s pc with
  | none => rw [h] at hs; cases hs
  | some p => exact ⟨_, _, rfl⟩

/-- side condition for a running callback: one that waits for what the closer does after Close() (ids 400–499)
    is only expected to finish when a Close has been started at all -/
def live (s : St) : PC → Prop
  | .r1 m => waitsClose m = true → s.closeStarted = true
  | _ => True

/-- with the gate open and no closer inside, a callback runs: what a waiting one (ids 400–499) waits for has
    happened, since the Close it may count on (`live`) has returned -/
theorem r1_enabled {s} (hi : Inv s) (hg : s.gate = true) (hc : s.cnt .c0 + s.cnt .c1 = 0) (m : Nat)
    (hl : live s (.r1 m)) : (step s (.r1 m)).isSome = true := by
  simp only [step, hg, Bool.not_true, Bool.and_false, Bool.false_eq_true, if_false]
  split
  · rename_i hw
    simp only [Bool.and_eq_true, Bool.not_eq_true'] at hw
    rw [hi.startedDone (hl hw.1) hc] at hw; cases hw.2
  · split <;> rfl

theorem progress_at {s k} (hk : 0 < s.cnt k) (he : ∀ pc, kind pc = k → live s pc → (step s pc).isSome = true) :
    ∃ k, 0 < s.cnt k ∧ ∀ pc, kind pc = k → live s pc → ∃ s' nx, gstep s pc false = some (s', nx) :=
  ⟨k, hk, fun pc hpk hl => gstep_of_isSome false (hpk ▸ hk) (he pc hpk hl)⟩

/-- Progress is stated per program-counter *kind*: the counters do not record which message a goroutine carries,
    so the enabled atom is enabled for every parameter a goroutine at that kind may have. -/
theorem progressK {s} (hi : Inv s) (hr : s.recovers = true) (hg : s.gate = true)
    (hb : 0 < s.cnt .p0 ∨ 0 < s.cnt .p1 ∨ 0 < s.cnt .c0 ∨ 0 < s.cnt .c1 ∨ 0 < s.cnt .r1) :
    ∃ k, 0 < s.cnt k ∧ ∀ pc, kind pc = k → live s pc → ∃ s' nx, gstep s pc false = some (s', nx) := by
  -- the closer first: neither of its atoms blocks
  by_cases hc0 : 0 < s.cnt .c0
  · exact progress_at hc0 fun pc hk _ => by cases pc <;> cases hk; rfl
  by_cases hc1 : 0 < s.cnt .c1
  · exact progress_at hc1 fun pc hk _ => by
      cases pc <;> cases hk; simp only [step]; repeat' split
      all_goals rfl
  by_cases h1 : 0 < s.cnt .r1
  · exact progress_at h1 fun pc hk hl => by cases pc <;> cases hk; exact r1_enabled hi hg (by omega) _ hl
  by_cases h0 : 0 < s.cnt .p0
  · exact progress_at h0 fun pc hk _ => by cases pc <;> cases hk; simp only [step]; split <;> rfl
  have hp1 : 0 < s.cnt .p1 := by omega
  -- a sender at the send: closed channel → recovered; room → sent; otherwise the consumer can move
  by_cases hcl : s.chClosed = true
  · exact progress_at hp1 fun pc hk _ => by cases pc <;> cases hk; simp only [step, hcl, hr, if_true]; rfl
  by_cases hroom : room s = true
  · exact progress_at hp1 fun pc hk _ => by cases pc <;> cases hk; simp only [step, hcl, hroom, if_true]; rfl
  have hr0 : 0 < s.cnt .r0 := Nat.pos_of_ne_zero fun h0 =>
    (hi.consExit (by omega)).elim hcl fun h => by have := (hi.selfCons h).2; omega
  refine progress_at hr0 fun pc hk _ => ?_
  cases pc <;> cases hk
  cases hbuf : s.buf with
  | nil => simp [room, hbuf, hr0] at hroom
  | cons m rest => simp only [step, hbuf]; rfl

/-- whenever an operation, the Close or a callback is in progress (callbacks terminate: gate open), some
    goroutine can take a step -/
theorem progress {s} (hi : Inv s) (hr : s.recovers = true) (hg : s.gate = true)
    (hb : 0 < s.cnt .p0 ∨ 0 < s.cnt .p1 ∨ 0 < s.cnt .c0 ∨ 0 < s.cnt .c1 ∨ 0 < s.cnt .r1) :
    ∃ pc ch s' nx, gstep s pc ch = some (s', nx) := by
  obtain ⟨k, _, h⟩ := progressK hi hr hg hb
  -- a goroutine carrying message 0 (a plain callback, so `live`) stands for its kind
  have ⟨pc, hk, hl⟩ : ∃ pc, kind pc = k ∧ live s pc :=
    match k with
    | .p0 => ⟨.p0 0, rfl, trivial⟩ | .p1 => ⟨.p1 0, rfl, trivial⟩ | .c0 => ⟨.c0, rfl, trivial⟩
    | .c1 => ⟨.c1, rfl, trivial⟩ | .r0 => ⟨.r0, rfl, trivial⟩ | .r1 => ⟨.r1 0, rfl, fun h => by cases h⟩
    | .wc => ⟨.wc, rfl, trivial⟩
  exact ⟨pc, false, h pc hk hl⟩

end FpgoVerif.C15.Mb
