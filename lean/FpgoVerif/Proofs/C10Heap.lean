import FpgoVerif.Model.C10Core
/-! C10, the slice heap.  Key notion (`Ext`): a protected snapshot header —
    one that lies in an allocated array and, when that array is the current array of `subs`, does not
    reach beyond `subs.len` — keeps its content under `append` (writes at index `subs.len` or
    allocates) and under the copying removal (allocates). -/
namespace FpgoVerif.C10

theorem cellsOf_modify (hp : Heap) (a b : Nat) (f : List Nat → List Nat) :
    cellsOf (hp.modify a f) b = if a = b then (if b < hp.length then f (cellsOf hp b) else []) else cellsOf hp b := by
  unfold cellsOf
  simp only [List.getD_eq_getElem?_getD, List.getElem?_modify]
  by_cases hab : a = b
  · subst hab
    by_cases hlt : a < hp.length
    · simp [hlt]
    · simp [hlt]
  · simp only [hab, if_false]
    cases hp[b]? <;> simp

theorem cellsOf_append_left (hp : Heap) (l : List Nat) (a : Nat) (h : a < hp.length) :
    cellsOf (hp ++ [l]) a = cellsOf hp a := by
  unfold cellsOf
  simp only [List.getD_eq_getElem?_getD]
  rw [List.getElem?_append_left h]

theorem cellsOf_append_new (hp : Heap) (l : List Nat) : cellsOf (hp ++ [l]) hp.length = l := by
  unfold cellsOf
  simp [List.getD_eq_getElem?_getD]

structure WF (hp : Heap) (h : Hdr) (n : Nat) : Prop where
  arr_lt : h.arr < hp.length
  len_le : h.len ≤ h.cap
  cap_le : h.cap ≤ (cellsOf hp h.arr).length
  sorted : (content hp h).Pairwise (· < ·)
  pos : ∀ x ∈ content hp h, 0 < x ∧ x < n
  n_pos : 0 < n

theorem WF.length_content {hp h n} (w : WF hp h n) : (content hp h).length = h.len := by
  unfold content
  rw [List.length_take]
  have := w.len_le; have := w.cap_le
  omega

def Prot (hp : Heap) (subs h : Hdr) : Prop :=
  h.arr < hp.length ∧ (h.arr = subs.arr → h.len ≤ subs.len)

structure Ext (hp : Heap) (subs : Hdr) (n : Nat) (hp' : Heap) (subs' : Hdr) (n' : Nat) : Prop where
  frozen : ∀ h, Prot hp subs h → content hp' h = content hp h ∧ Prot hp' subs' h
  n_le : n ≤ n'
  gone : ∀ x, 0 < x → x < n → x ∉ content hp subs → x ∉ content hp' subs'

theorem take_set_succ (l : List Nat) (i x : Nat) (h : i < l.length) :
    (l.set i x).take (i + 1) = l.take i ++ [x] := by
  rw [List.take_add_one, List.take_set_of_le (Nat.le_refl i), List.getElem?_set]
  simp [h]

theorem appendSub_spec (grow : Nat → Nat) {hp h n} (w : WF hp h n) :
    WF (appendSub grow hp h n).1 (appendSub grow hp h n).2 (n + 1) ∧
    content (appendSub grow hp h n).1 (appendSub grow hp h n).2 = content hp h ++ [n] ∧
    Ext hp h n (appendSub grow hp h n).1 (appendSub grow hp h n).2 (n + 1) := by
  have hlen := w.length_content
  have hnp := w.n_pos
  have hsorted : (content hp h ++ [n]).Pairwise (· < ·) :=
    List.pairwise_append.2 ⟨w.sorted, List.pairwise_singleton _ _, fun a ha b hb => List.mem_singleton.1 hb ▸ (w.pos a ha).2⟩
  have hpos : ∀ x ∈ content hp h ++ [n], 0 < x ∧ x < n + 1 := by
    intro x hx
    rw [List.mem_append] at hx
    rcases hx with hx | hx
    · have := w.pos x hx; omega
    · simp at hx; subst hx; omega
  have hgone : ∀ x, 0 < x → x < n → x ∉ content hp h → x ∉ content hp h ++ [n] := by
    intro x _ hx hnot hmem
    rw [List.mem_append] at hmem
    rcases hmem with hm | hm
    · exact hnot hm
    · simp at hm; omega
  unfold appendSub
  by_cases hc : h.len < h.cap
  · simp only [hc, if_true]
    have hcells : cellsOf (hp.modify h.arr (fun c => c.set h.len n)) h.arr = (cellsOf hp h.arr).set h.len n := by
      rw [cellsOf_modify]; simp [w.arr_lt]
    have hlt : h.len < (cellsOf hp h.arr).length := Nat.lt_of_lt_of_le hc w.cap_le
    have hcont : content (hp.modify h.arr (fun c => c.set h.len n)) { h with len := h.len + 1 } = content hp h ++ [n] := by
      unfold content
      simp only [hcells]
      exact take_set_succ _ _ _ hlt
    refine ⟨{ arr_lt := ?arr_lt, len_le := ?len_le, cap_le := ?cap_le, sorted := hcont ▸ hsorted, pos := hcont ▸ hpos,
              n_pos := by omega }, hcont, { frozen := ?frozen, n_le := by omega, gone := hcont ▸ hgone }⟩
    case arr_lt => simp [List.length_modify]; exact w.arr_lt
    case len_le => show h.len + 1 ≤ h.cap; omega
    case cap_le => show h.cap ≤ _; rw [hcells, List.length_set]; exact w.cap_le
    case frozen =>
      -- the write is at index `h.len`, beyond every protected header of the same array
      intro h' ⟨hp1, hp2⟩
      refine ⟨?_, ?_, ?_⟩
      · unfold content
        rw [cellsOf_modify]
        by_cases he : h.arr = h'.arr
        · have hle : h'.len ≤ h.len := hp2 he.symm
          simp only [he, if_true, hp1]
          rw [List.take_set_of_le hle]
        · simp [he]
      · simp [List.length_modify]; exact hp1
      · intro he; have := hp2 he; show h'.len ≤ h.len + 1; omega
  · simp only [hc, if_false]
    have hcont : content (hp ++ [content hp h ++ n :: List.replicate (max (grow h.cap) (h.len + 1) - (h.len + 1)) 0])
        ⟨hp.length, h.len + 1, max (grow h.cap) (h.len + 1)⟩ = content hp h ++ [n] := by
      show ((cellsOf _ hp.length).take (h.len + 1)) = _
      rw [cellsOf_append_new]
      have hl : h.len + 1 = (content hp h ++ [n]).length := by simp [hlen]
      have he : ∀ r : List Nat, content hp h ++ n :: r = (content hp h ++ [n]) ++ r := by intro r; simp
      rw [he, hl]
      exact List.take_left
    refine ⟨{ arr_lt := ?arr_lt, len_le := ?len_le, cap_le := ?cap_le, sorted := hcont ▸ hsorted, pos := hcont ▸ hpos,
              n_pos := by omega }, hcont, { frozen := ?frozen, n_le := by omega, gone := hcont ▸ hgone }⟩
    case arr_lt => simp
    case len_le => show h.len + 1 ≤ max _ _; omega
    case cap_le =>
      show max _ _ ≤ (cellsOf _ hp.length).length
      rw [cellsOf_append_new]; simp [hlen]; omega
    case frozen =>
      intro h' ⟨hp1, hp2⟩
      refine ⟨?_, ?_, ?_⟩
      · unfold content; rw [cellsOf_append_left _ _ _ hp1]
      · simp; omega
      · intro he; simp at he; omega

theorem findIdx_some {s : Nat} {l : List Nat} {i : Nat} (h : findIdx s l = some i) :
    i < l.length ∧ l[i]? = some s := by
  induction l generalizing i with
  | nil => simp [findIdx] at h
  | cons a l ih =>
    unfold findIdx at h
    by_cases ha : a = s
    · simp [ha] at h; subst h; simp [ha]
    · simp only [ha, if_false, Option.map_eq_some_iff] at h
      obtain ⟨j, hj, rfl⟩ := h
      have := ih hj
      refine ⟨by simp [this.1], ?_⟩
      simpa using this.2

theorem findIdx_none {s : Nat} {l : List Nat} (h : findIdx s l = none) : s ∉ l := by
  induction l with
  | nil => simp
  | cons a l ih =>
    unfold findIdx at h
    by_cases ha : a = s
    · simp [ha] at h
    · simp only [ha, if_false, Option.map_eq_none_iff] at h
      simp [ih h]; exact fun e => ha e.symm

theorem removeCopy_spec {hp h n} (w : WF hp h n) (i : Nat) (hi : i < h.len) :
    WF (removeCopy hp h i).1 (removeCopy hp h i).2 n ∧
    content (removeCopy hp h i).1 (removeCopy hp h i).2 = (content hp h).eraseIdx i ∧
    Ext hp h n (removeCopy hp h i).1 (removeCopy hp h i).2 n := by
  have hlen := w.length_content
  have hcont : content (removeCopy hp h i).1 (removeCopy hp h i).2 = (content hp h).eraseIdx i := by
    show ((cellsOf (hp ++ [(content hp h).eraseIdx i]) hp.length).take (h.len - 1)) = _
    rw [cellsOf_append_new]
    have : h.len - 1 = ((content hp h).eraseIdx i).length := by
      rw [List.length_eraseIdx]; simp [hlen, hi]
    rw [this]; exact List.take_length
  have hsub := List.eraseIdx_sublist (content hp h) i
  refine ⟨⟨?_, ?_, ?_, ?_, ?_, w.n_pos⟩, hcont, ⟨?_, Nat.le_refl _, ?_⟩⟩
  · simp [removeCopy]
  · simp [removeCopy]
  · show h.len - 1 ≤ (cellsOf (hp ++ [(content hp h).eraseIdx i]) hp.length).length
    rw [cellsOf_append_new, List.length_eraseIdx]; simp [hlen, hi]
  · rw [hcont]; exact w.sorted.sublist hsub
  · rw [hcont]; intro x hx; exact w.pos x (hsub.subset hx)
  · intro h' ⟨hp1, hp2⟩
    refine ⟨?_, ?_, ?_⟩
    · unfold content removeCopy; rw [cellsOf_append_left _ _ _ hp1]
    · simp [removeCopy]; omega
    · intro he; simp [removeCopy] at he; omega
  · rw [hcont]; intro x _ _ hnot hmem; exact hnot (hsub.subset hmem)

end FpgoVerif.C10
