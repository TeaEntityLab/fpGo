import FpgoVerif.Model.C13Fan
/-! Invariant of the fan-in transition system. -/
namespace FpgoVerif.C13.Fan

structure Inv (c : Nat) (replies : List Nat) (s : FS) : Prop where
  cons : s.got ++ s.buf ++ optl s.cur ++ s.todo = replies
  bound : s.buf.length ≤ c

theorem inv_init (c : Nat) (replies : List Nat) : Inv c replies (FS.init replies) :=
  ⟨by simp [FS.init, optl], by simp [FS.init]⟩

theorem step_inv {c replies s t} (a : FAct) (hi : Inv c replies s) (h : step c s a = some t) : Inv c replies t := by
  obtain ⟨cons, bound⟩ := hi
  cases a <;> simp only [step] at h
  case take =>
    split at h
    · next v rest hc ht =>
      cases h
      exact ⟨by rw [hc, ht] at cons; simpa [optl] using cons, bound⟩
    · cases h
  case replyBuf =>
    split at h
    · next v hc =>
      split at h
      · next hroom =>
        cases h
        refine ⟨?_, ?_⟩
        · rw [hc] at cons; simpa [optl, List.append_assoc] using cons
        · simp only [List.length_append, List.length_cons, List.length_nil]; omega
      · cases h
    · cases h
  case replyHand =>
    split at h
    · next v hc =>
      split at h
      · next hd =>
        cases h
        have hb : s.buf = [] := List.length_eq_zero_iff.mp (by have := hd.1; omega)
        refine ⟨?_, bound⟩
        rw [hc, hb] at cons; simpa [optl, hb, List.append_assoc] using cons
      · cases h
    · cases h
  case start =>
    split at h
    · cases h
    · cases h; exact ⟨cons, bound⟩
  case recv =>
    split at h
    · split at h
      · next v rest hb =>
        cases h
        refine ⟨?_, ?_⟩
        · rw [hb] at cons; simpa [List.append_assoc] using cons
        · rw [hb] at bound; simp only [List.length_cons] at bound
          show rest.length ≤ c
          omega
      · cases h
    · cases h

theorem reach_inv {c replies s} (h : Reach c replies s) : Inv c replies s := by
  induction h with
  | init => exact inv_init c replies
  | step a _ hs ih => exact step_inv a ih hs

theorem reach_run {c replies} : ∀ (acts : List FAct) {s t}, Reach c replies s → runActs c s acts = some t →
    Reach c replies t
  | [], s, t, hr, h => by simp only [runActs] at h; cases h; exact hr
  | a :: as, s, t, hr, h => by
    simp only [runActs] at h
    split at h
    · next u hu => exact reach_run as (Reach.step a hr hu) h
    · cases h

theorem reach_of_run {c replies} (acts : List FAct) {t} (h : runActs c (FS.init replies) acts = some t) :
    Reach c replies t := reach_run acts Reach.init h

end FpgoVerif.C13.Fan
