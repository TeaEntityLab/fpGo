import FpgoVerif.Proofs.C02Eval
import FpgoVerif.Proofs.C02Round
/-! C02 — integer sources: the reflective checker for the integer → integer cells of the extracted conversion
    table with its soundness proof (for every value of the source type), the integer → float cells, and the clauses
    that need no arithmetic (error rows, `ToBool` of a number). -/
namespace FpgoVerif.C02

def passB (l h : Option Int) (z : Int) : Bool :=
  (match l with | none => true | some c => decide (c ≤ z)) &&
  (match h with | none => true | some c => decide (z ≤ c))

def optMax : Option Int → Option Int → Option Int
  | none, b => b
  | a, none => a
  | some a, some b => some (max a b)

def optMin : Option Int → Option Int → Option Int
  | none, b => b
  | a, none => a
  | some a, some b => some (min a b)

/-- guards of the fragment: conjunctions of `v >= c`, `v <= c`, and `T(v) <= c` with `c ≥ max T` (always true) -/
def intBounds : C → Option (Option Int × Option Int)
  | .ge .v (.lit c) => some (some c, none)
  | .le .v (.lit c) => some (none, some c)
  | .le (.cast t .v) (.lit c) =>
    match t.range with
    | some (lo, hi) => if lo ≤ hi ∧ hi ≤ c then some (none, none) else none
    | none => none
  | .and a b =>
    match intBounds a, intBounds b with
    | some (l1, h1), some (l2, h2) => some (optMax l1 l2, optMin h1 h2)
    | _, _ => none
  | _ => none

theorem passB_and (l1 h1 l2 h2 : Option Int) (z : Int) :
    passB (optMax l1 l2) (optMin h1 h2) z = (passB l1 h1 z && passB l2 h2 z) := by
  rw [Bool.eq_iff_iff]
  cases l1 <;> cases l2 <;> cases h1 <;> cases h2 <;>
    simp only [passB, optMax, optMin, Bool.and_eq_true, decide_eq_true_eq, Bool.true_and, Bool.and_true] <;> omega

theorem intBounds_sound {g : C} {l h : Option Int} (hg : intBounds g = some (l, h)) (z : Int) :
    evalC (.i z) g = some (passB l h z) := by
  -- one case per branch of `intBounds`, in its order: 1, 2 the atoms on `v`; 3 `T(v) <= c` accepted (4, 5: bound too
  -- small, `T` no integer type); 6 a conjunction of two accepted guards (7: otherwise); 8 any other guard.  The cases
  -- not named return `none`.
  fun_induction intBounds g generalizing l h
  case case1 c | case2 c =>
    cases hg
    simp [evalC, evalE, cmpV, passB]
  case case3 t c lo hi hr hc =>
    -- `T(v)` lies in `T`'s range, hence below `c`
    cases hg
    have := wrap_mem lo hi z hc.1
    simp only [evalC, evalE, cmpV, castTo_int hr, passB, Bool.and_self, Bool.false_eq_true, if_false,
      Option.some.injEq, decide_eq_true_eq]
    omega
  case case6 a b l1 h1 l2 h2 hb ha iha ihb =>
    cases hg
    rw [passB_and]
    simp only [evalC, iha ha, ihb hb]
    cases passB l1 h1 z <;> rfl
  all_goals cases hg

/-- source range `[slo, shi]`, guard bounds `l`, `h`, target range `[lo, hi]`, must-succeed range `[mlo, mhi]`:
    (a) every source value that passes the guard is inside the target range,
    (b) every source value inside the must-succeed range passes the guard -/
def ivOK (slo shi : Int) (l h : Option Int) (lo hi mlo mhi : Int) : Bool :=
  let effLo := match l with | none => slo | some c => max c slo
  let effHi := match h with | none => shi | some c => min c shi
  (decide (effLo > effHi) || (decide (lo ≤ effLo) && decide (effHi ≤ hi))) &&
  (decide (max mlo slo > min mhi shi) || (decide (effLo ≤ max mlo slo) && decide (min mhi shi ≤ effHi)))

theorem iv_arith {eL eH M N lo hi : Int} (hk : (eL > eH ∨ lo ≤ eL ∧ eH ≤ hi) ∧ (M > N ∨ eL ≤ M ∧ N ≤ eH)) (z : Int) :
    (eL ≤ z ∧ z ≤ eH → lo ≤ z ∧ z ≤ hi) ∧ (M ≤ z ∧ z ≤ N → eL ≤ z ∧ z ≤ eH) := by
  omega

theorem ivOK_sound {slo shi : Int} {l h : Option Int} {lo hi mlo mhi : Int}
    (hk : ivOK slo shi l h lo hi mlo mhi = true) {z : Int} (h1 : slo ≤ z) (h2 : z ≤ shi) :
    (passB l h z = true → lo ≤ z ∧ z ≤ hi) ∧ (mlo ≤ z ∧ z ≤ mhi → passB l h z = true) := by
  simp only [ivOK, Bool.and_eq_true, Bool.or_eq_true, decide_eq_true_eq] at hk
  have key := iv_arith hk z
  clear hk
  -- for `z` in the source range, `[eL, eH]` is the guard and `[M, N]` the must-succeed range
  cases l <;> cases h <;>
    simp only [passB, Int.max_le, Int.le_min, Bool.and_eq_true, decide_eq_true_eq, Bool.and_self, true_and, and_true,
      true_imp_iff, implies_true] at key ⊢ <;> omega

theorem fitsInt_exact {lo hi z : Int} {x : Val} (hx : exactInt x = some z) (hf : fitsInt lo hi x = true) :
    lo ≤ z ∧ z ≤ hi := by
  cases x with
  | i => cases hx; exact of_decide_eq_true hf
  | b x => cases hx; have := of_decide_eq_true hf; cases x <;> simp only [if_true, Bool.false_eq_true, if_false] <;> omega
  | f32 y | f64 y =>
    cases y with
    | fin s m k => cases hx; have := of_decide_eq_true hf; exact ⟨rha_ge s m k lo this.1, rha_le s m k hi this.2⟩
    | _ => cases hx
  | _ => cases hx

/-- `if g { return T(z), nil }; return _, ErrConversionOverflow` for the integer `z` that the source value `x`
    denotes, under a guard that passes the interval check: inside the guard the cast is the identity, and what the
    guard rejects did not have to fit -/
theorem specNum_narrow {tgt : Ty} {x : Val} {z slo shi lo hi mlo mhi : Int} {l h : Option Int}
    (hr : tgt.range = some (lo, hi)) (hm : tgt.must = some (mlo, mhi))
    (hiv : ivOK slo shi l h lo hi mlo mhi = true) (hx : exactInt x = some z) (h1 : slo ≤ z) (h2 : z ≤ shi) (v : Val) :
    specNum tgt x (if passB l h z then ⟨castTo tgt (.i z), .ok⟩ else ⟨v, .overflow⟩) = true := by
  obtain ⟨ha, hb⟩ := ivOK_sound hiv h1 h2
  cases hp : passB l h z
  · exact specNum_int_err hr hm ErrK.noConfusion fun hf => Bool.false_ne_true (hp ▸ hb (fitsInt_exact hx hf))
  · obtain ⟨hz1, hz2⟩ := ha hp
    rw [if_pos rfl, castTo_int_of_mem hr hz1 hz2]
    exact specNum_int_ok hr hm hx hz1 hz2

theorem specNum_guardedCast {tgt : Ty} {x : Val} {z slo shi lo hi mlo mhi : Int} {g : C} {l h : Option Int}
    (hr : tgt.range = some (lo, hi)) (hm : tgt.must = some (mlo, mhi)) (hg : intBounds g = some (l, h))
    (hiv : ivOK slo shi l h lo hi mlo mhi = true) (hx : exactInt x = some z) (h1 : slo ≤ z) (h2 : z ≤ shi) (fe : E) :
    specNum tgt x (afterCall ⟨.i z, .ok⟩ (some g) ⟨.cast tgt .v, .fromCall⟩ (some ⟨fe, .overflow⟩)) = true := by
  rw [afterCall_guard (intBounds_sound hg z)]
  refine Eq.trans (congrArg _ ?_) (specNum_narrow hr hm hiv hx h1 h2 (evalE (.i z) fe))
  cases passB l h z <;> rfl

def intBodyOK (tbl : List Case) (tgt src : Ty) (body : Body) : Bool :=
  match tgt.range, tgt.must, src.range with
  | some (lo, hi), some (mlo, mhi), some (slo, shi) =>
    match body with
    | .ident => tgt == src && decide (lo ≤ slo ∧ shi ≤ hi)
    | .bind (.self m) none ⟨.cast t .v, .fromCall⟩ _ =>
      m == src && t == tgt && selfIdent tbl src && ivOK slo shi none none lo hi mlo mhi
    | .bind (.self m) (some g) ⟨.cast t .v, .fromCall⟩ (some ⟨_, .overflow⟩) =>
      m == src && t == tgt && selfIdent tbl src &&
      (match intBounds g with
       | some (l, h) => ivOK slo shi l h lo hi mlo mhi
       | none => false)
    | _ => false
  | _, _, _ => false

theorem intBodyOK_sound (sc : Strconv) (tbl : List Case) (n : Nat) (tgt src : Ty) (slo shi : Int)
    (hs : src.range = some (slo, shi))
    (hk : intBodyOK tbl tgt src (lookup tbl tgt (.ty src)) = true)
    (z : Int) (h1 : slo ≤ z) (h2 : z ≤ shi) :
    specNum tgt (.i z) (conv sc tbl (n + 2) tgt (.ty src) (.i z)) = true := by
  unfold intBodyOK at hk
  split at hk
  case h_2 => cases hk
  case h_1 lo hi mlo mhi slo' shi' hr hm hs' =>
  cases hs.symm.trans hs'
  split at hk
  case h_1 hb =>
    simp only [Bool.and_eq_true, decide_eq_true_eq] at hk
    rw [conv_ident hb]
    exact specNum_int_ok hr hm rfl (by omega) (by omega)
  case h_2 m t f hb =>
    simp only [Bool.and_eq_true, beq_iff_eq] at hk
    obtain ⟨⟨⟨rfl, rfl⟩, hsi⟩, hiv⟩ := hk
    rw [conv_bind_self hb hsi]
    exact specNum_narrow hr hm hiv rfl h1 h2 default
  case h_3 m g t fe hb =>
    simp only [Bool.and_eq_true, beq_iff_eq] at hk
    obtain ⟨⟨⟨rfl, rfl⟩, hsi⟩, hiv⟩ := hk
    split at hiv
    case h_2 => cases hiv
    case h_1 l h hg =>
    rw [conv_bind_self hb hsi]
    exact specNum_guardedCast hr hm hg hiv rfl h1 h2 fe
  case h_4 => cases hk

def intCellOK (tbl : List Case) (tgt src : Ty) : Bool := intBodyOK tbl tgt src (lookup tbl tgt (.ty src))

def intTys : List Ty := [.int, .int8, .int16, .int32, .int64, .uint, .uint8, .uint16, .uint32, .uint64, .uintptr]

theorem intTys_range {t : Ty} (h : t ∈ intTys) : ∃ lo hi, t.range = some (lo, hi) := by
  simp only [intTys, List.mem_cons, List.not_mem_nil, or_false] at h
  rcases h with rfl | rfl | rfl | rfl | rfl | rfl | rfl | rfl | rfl | rfl | rfl <;> exact ⟨_, _, rfl⟩

def numTys : List Ty := intTys ++ [.float32, .float64]
def allTgts : List Ty := intTys ++ [.float32, .float64, .bool]

/-! ### integer → float: the result is `ofInt f z` by construction, and it is finite -/

/-- `case S: val, err := maybeSelf.To<S>(); return T(val), err` for a float type `T` -/
def toFloatBodyOK (tbl : List Case) (tgt src : Ty) (body : Body) : Bool :=
  match body with
  | .bind (.self m) none ⟨.cast t .v, .fromCall⟩ _ => m == src && t == tgt && selfIdent tbl src
  | _ => false

theorem intRange_abs {src : Ty} {lo hi z : Int} (hr : src.range = some (lo, hi)) (h1 : lo ≤ z) (h2 : z ≤ hi) :
    z.natAbs < 2 ^ 64 := by
  have : -p64 < lo ∧ hi < p64 := by cases src <;> cases hr <;> decide
  simp only [p64] at this
  omega

theorem toFloatBodyOK_sound (sc : Strconv) (tbl : List Case) (n : Nat) (tgt src : Ty) (f : Fmt)
    (hf : (tgt = .float32 ∧ f = f32) ∨ (tgt = .float64 ∧ f = f64)) (lo hi z : Int)
    (hr : src.range = some (lo, hi)) (h1 : lo ≤ z) (h2 : z ≤ hi)
    (hk : toFloatBodyOK tbl tgt src (lookup tbl tgt (.ty src)) = true) :
    conv sc tbl (n + 2) tgt (.ty src) (.i z) = ⟨castTo tgt (.i z), .ok⟩ ∧
    specNum tgt (.i z) ⟨castTo tgt (.i z), .ok⟩ = true := by
  constructor
  · unfold toFloatBodyOK at hk
    split at hk
    case h_2 => cases hk
    case h_1 m t _ hb =>
    simp only [Bool.and_eq_true, beq_iff_eq] at hk
    obtain ⟨⟨rfl, rfl⟩, hsi⟩ := hk
    exact conv_bind_self hb hsi n _
  · have hfin := ofInt_isFin f (hf.imp And.right And.right) z (intRange_abs hr h1 h2)
    rcases hf with ⟨rfl, rfl⟩ | ⟨rfl, rfl⟩ <;> exact specNum_float_ok rfl rfl rfl rfl fun _ => hfin

def errRowOK (tbl : List Case) (tgt : Ty) (k : Kind) (e : Err) : Bool :=
  match lookup tbl tgt k with
  | .ret ⟨_, e'⟩ => e' == e
  | _ => false

theorem errRow_sound (sc : Strconv) (tbl : List Case) (n : Nat) (tgt : Ty) (k : Kind) (e : Err) (x : Val)
    (h : errRowOK tbl tgt k e = true) : (conv sc tbl (n + 1) tgt k x).err = errOf e .ok := by
  unfold errRowOK at h
  split at h
  case h_2 => cases h
  case h_1 _ e' hb =>
  rw [conv_succ, hb, ← eq_of_beq h]
  rfl

/-- `case T: val, err := maybeSelf.To<T>(); return val != 0, err` -/
def toBoolBodyOK (tbl : List Case) (src : Ty) (body : Body) : Bool :=
  match body with
  | .bind (.self m) none ⟨.ne0 .v, .fromCall⟩ _ => m == src && selfIdent tbl src
  | _ => false

theorem toBoolBodyOK_sound (sc : Strconv) (tbl : List Case) (n : Nat) (src : Ty) (x : Val)
    (h : toBoolBodyOK tbl src (lookup tbl .bool (.ty src)) = true) :
    conv sc tbl (n + 2) .bool (.ty src) x = ⟨evalE x (.ne0 .v), .ok⟩ := by
  unfold toBoolBodyOK at h
  split at h
  case h_2 => cases h
  case h_1 m _ hb =>
  simp only [Bool.and_eq_true, beq_iff_eq] at h
  obtain ⟨rfl, hsi⟩ := h
  exact conv_bind_self hb hsi n x

end FpgoVerif.C02
