import FpgoVerif.Model.C15Pool
import FpgoVerif.Proofs.C15Tac
/-! Worker-pool close path: the invariant, its preservation by every atom, reachability, progress. -/
namespace FpgoVerif.C15.Pl

theorem gstep_some {s pc ch s' nx} (h : gstep s pc ch = some (s', nx)) :
    0 < s.cnt (kind pc) ∧ ∃ s1, step s pc ch = some (s1, nx) ∧ s' = { s1 with cnt := move s1.cnt (kind pc) nx } := by
  unfold gstep at h
  split at h
  · cases h
  · rename_i hc
    split at h <;> cases h
    rename_i hs
    exact ⟨Nat.pos_of_ne_zero hc, _, hs, rfl⟩

structure Inv (s : St) : Prop where
  fn : s.fixNotify = true
  nopanic : s.panic = false
  np0 : s.np = 0
  w1 : s.cnt .s2 + s.cnt .qc1 + s.cnt .qc2 ≤ 1
  wr : 0 < s.cnt .s2 + s.cnt .qc1 + s.cnt .qc2 → s.cnt .w2 = 0
  oneC : s.cnt .pc0 + s.cnt .pc1 + s.cnt .qc1 + s.cnt .qc2 ≤ 1
  startedC : s.closeStarted = false → s.cnt .pc0 + s.cnt .pc1 + s.cnt .qc1 + s.cnt .qc2 = 0
  startedFlag : s.pflag = true → s.closeStarted = true
  w2flag : 0 < s.cnt .w2 → s.qflag = false
  qcflag : 0 < s.cnt .qc1 + s.cnt .qc2 → s.qflag = true
  pcflag : 0 < s.cnt .pc1 + s.cnt .qc1 + s.cnt .qc2 → s.pflag = true
  qp : s.qflag = true → s.pflag = true
  loadFlag : s.loadClosed = true → s.qflag = true ∧ s.cnt .pc0 + s.cnt .pc1 + s.cnt .qc1 = 0
  chanFlag : s.chanClosed = true → s.loadClosed = true ∧ s.cnt .pc0 + s.cnt .pc1 + s.cnt .qc1 + s.cnt .qc2 = 0
  c2load : 0 < s.cnt .qc2 → s.loadClosed = true
  doneFlag : s.closeDone = true → s.pflag = true
  doneQ : s.closeDone = true → s.qclose = true → s.chanClosed = true
  late0 : s.late = 0
  pc0flag : 0 < s.cnt .pc0 → s.pflag = false
  closerIn : s.closeStarted = true → s.closeDone = false → 0 < s.cnt .pc0 + s.cnt .pc1 + s.cnt .qc1 + s.cnt .qc2

theorem inv_init (cap : Nat) (qc : Bool) : Inv (init cap qc true) := by
  constructor <;> simp [init]

/-- what the guard of `s1` and `pc1` (`Lock`) says about the counters -/
theorem Inv.unlocked {s} (hi : Inv s) (hg : ¬(writers s ≠ 0 ∨ readers s ≠ 0)) :
    s.cnt .s2 + s.cnt .qc1 + s.cnt .qc2 = 0 ∧ s.cnt .w2 = 0 := by
  simpa only [writers, readers, hi.fn, if_true, ne_eq, not_or, Classical.not_not] using hg

theorem inv_spawn {s s' pc} (h : spawn s pc = some s') (hi : Inv s) : Inv s' := by
  cases pc <;> simp only [spawn, inc] at h <;> try (cases h; done)
  case s0 | ic | w0 => cases h; exact { hi with }
  case pc0 =>
    split at h <;> cases h
    rename_i hcs
    have h0 := hi.startedC (Bool.eq_false_iff.2 hcs)
    have hp : ¬s.pflag = true := mt hi.startedFlag hcs
    have hl : ¬s.loadClosed = true := fun h => hp (hi.qp (hi.loadFlag h).1)
    exact { hi with
      oneC := by cnt_eval; omega
      startedC := fun h => by cases h
      startedFlag := fun _ => rfl
      loadFlag := fun h => absurd h hl
      chanFlag := fun h => absurd (hi.chanFlag h).1 hl
      pc0flag := fun _ => Bool.eq_false_iff.2 hp
      closerIn := fun _ _ => by cnt_eval; omega }

theorem inv_step {s s' nx pc ch} (h : gstep s pc ch = some (s', nx)) (hi : Inv s) : Inv s' := by
  obtain ⟨hc, s1, hs, rfl⟩ := gstep_some h
  clear h
  cases pc <;> simp only [kind] at hc ⊢
  case s0 j =>
    simp only [step] at hs
    split at hs <;> cases hs
    · exact { hi with }
    · rename_i hp
      have hd : s.closeDone = false := Bool.eq_false_iff.2 (mt hi.doneFlag hp)
      exact { hi with late0 := by simp only [hd]; exact hi.late0 }
  case s1 j =>
    simp only [step] at hs
    split at hs
    · cases hs
    · rename_i hg
      cases hs
      obtain ⟨hw, hr⟩ := hi.unlocked hg
      exact { hi with
        w1 := by cnt_eval; omega
        wr := fun _ => hr }
  case s2 j =>
    have leave : ∀ jobs r, Inv { s with jobs := jobs, cnt := move s.cnt .s2 (.fin r) } := fun _ _ =>
      { hi with
        w1 := by have := hi.w1; cnt_eval; omega
        wr := fun h => hi.wr (by cnt_eval at h; omega) }
    -- sending on a closed channel is excluded: both closes happen after the queue flag is set
    have open_ : ¬s.qflag = true → ¬(s.chanClosed || s.loadClosed) = true := fun hq hcl =>
      hq (hi.loadFlag (((Bool.or_eq_true _ _).mp hcl).elim (fun h => (hi.chanFlag h).1) id)).1
    simp only [step] at hs
    by_cases hq : s.qflag = true
    · rw [if_pos hq] at hs; cases hs; exact leave _ _
    · rw [if_neg hq, if_neg (open_ hq)] at hs
      split at hs <;> cases hs <;> exact leave _ _
  case pc0 =>
    simp only [step] at hs
    split at hs <;> cases hs
    · rename_i hp
      exact absurd hp (Bool.eq_false_iff.1 (hi.pc0flag hc))
    · rename_i hp
      have h1 := hi.oneC
      have hcs : s.closeStarted = true := Bool.of_not_eq_false fun h => by have := hi.startedC h; omega
      have hl : ¬s.loadClosed = true := fun h => hp (hi.qp (hi.loadFlag h).1)
      exact { hi with
        oneC := by cnt_eval; omega
        startedC := fun h => absurd hcs (Bool.eq_false_iff.1 h)
        startedFlag := fun _ => hcs
        pcflag := fun _ => rfl
        qp := fun _ => rfl
        loadFlag := fun h => absurd h hl
        chanFlag := fun h => absurd (hi.chanFlag h).1 hl
        doneFlag := fun _ => rfl
        pc0flag := fun h => by cnt_eval at h; omega
        closerIn := fun _ _ => by cnt_eval; omega }
  case pc1 =>
    have h1 := hi.oneC
    have hp : s.pflag = true := hi.pcflag (by omega)
    simp only [step] at hs
    split at hs
    · rename_i hq
      cases hs
      exact { hi with
        oneC := by cnt_eval; omega
        startedC := fun h => by have := hi.startedC h; omega
        pcflag := fun _ => hp
        loadFlag := fun h => by have := (hi.loadFlag h).2; omega
        chanFlag := fun h => by have := (hi.chanFlag h).2; omega
        doneFlag := fun _ => hp
        doneQ := fun _ h => by rw [show s.qclose = true from h] at hq; cases hq
        closerIn := fun _ h => by cases h }
    · split at hs
      · cases hs
      · rename_i hg
        cases hs
        obtain ⟨hw, hr⟩ := hi.unlocked hg
        exact { hi with
          w1 := by cnt_eval; omega
          wr := fun _ => hr
          oneC := by cnt_eval; omega
          startedC := fun h => by have := hi.startedC h; omega
          w2flag := fun h => by cnt_eval at h; omega
          qcflag := fun _ => rfl
          pcflag := fun _ => hp
          qp := fun _ => hp
          loadFlag := fun h => by have := (hi.loadFlag h).2; omega
          chanFlag := fun h => by have := (hi.chanFlag h).2; omega
          closerIn := fun _ _ => by cnt_eval; omega }
  case qc1 =>
    have h1 := hi.oneC
    have hqf : s.qflag = true := hi.qcflag (by omega)
    simp only [step] at hs
    split at hs <;> cases hs
    · rename_i hl
      have := (hi.loadFlag hl).2; omega
    · exact { hi with
        w1 := by have := hi.w1; cnt_eval; omega
        wr := fun _ => hi.wr (by omega)
        oneC := by cnt_eval; omega
        startedC := fun h => by have := hi.startedC h; omega
        qcflag := fun _ => hqf
        pcflag := fun _ => hi.pcflag (by omega)
        loadFlag := fun _ => ⟨hqf, by cnt_eval; omega⟩
        chanFlag := fun h => by have := (hi.chanFlag h).2; omega
        c2load := fun _ => rfl
        closerIn := fun _ _ => by cnt_eval; omega }
  case qc2 =>
    have h1 := hi.oneC
    have hp : s.pflag = true := hi.pcflag (by omega)
    simp only [step] at hs
    split at hs <;> cases hs
    · rename_i hcc
      have := (hi.chanFlag hcc).2; omega
    · exact { hi with
        w1 := by have := hi.w1; cnt_eval; omega
        wr := fun h => hi.wr (by cnt_eval at h; omega)
        oneC := by cnt_eval; omega
        startedC := fun h => by have := hi.startedC h; omega
        qcflag := fun _ => hi.qcflag (by omega)
        pcflag := fun _ => hp
        chanFlag := fun _ => ⟨hi.c2load hc, by cnt_eval; omega⟩
        c2load := fun _ => hi.c2load hc
        doneFlag := fun _ => hp
        doneQ := fun _ _ => rfl
        closerIn := fun _ h => by cases h }
  case w1 =>
    simp only [step, hi.fn, if_true] at hs
    repeat' split at hs
    all_goals cases hs
    · exact { hi with }
    · rename_i hw hq
      simp only [writers, ne_eq, Classical.not_not] at hw
      exact { hi with
        wr := fun h => by cnt_eval at h; omega
        w2flag := fun _ => Bool.eq_false_iff.2 hq }
  case w2 =>
    simp only [step] at hs
    split at hs <;> cases hs
    · rename_i hl
      exact absurd (hi.loadFlag hl).1 (Bool.eq_false_iff.1 (hi.w2flag hc))
    · exact { hi with
        wr := fun h => by have := hi.wr h; omega
        w2flag := fun _ => hi.w2flag hc }
  -- atoms that write nothing the invariant reads, between kinds no clause counts
  case ic | w0 | w3 | w4 j =>
    simp only [step] at hs
    repeat' split at hs
    all_goals cases hs <;> exact { hi with }

theorem inv_reach {cap qc s} (h : Reach cap qc true s) : Inv s := by
  induction h with
  | init => exact inv_init cap qc
  | spawn pc _ hs ih => exact inv_spawn hs ih
  | step pc ch _ hs ih => exact inv_step hs ih
  | gate _ ih => exact { ih with }

theorem gstep_of_isSome {s pc} (ch : Bool) (hc : 0 < s.cnt (kind pc)) (hs : (step s pc ch).isSome = true) :
    ∃ s' nx, gstep s pc ch = some (s', nx) := by
  unfold gstep
  rw [if_neg (Nat.ne_of_gt hc)]
  cases h : step s pc ch with
  | none => rw [h] at hs; cases hs
  | some p => exact ⟨_, _, rfl⟩

theorem progress_at {s k} (ch : Bool) (hk : 0 < s.cnt k) (he : ∀ pc, kind pc = k → (step s pc ch).isSome = true) :
    ∃ k, 0 < s.cnt k ∧ ∀ pc, kind pc = k → ∃ s' nx, gstep s pc ch = some (s', nx) :=
  ⟨k, hk, fun pc hpc => gstep_of_isSome ch (hpc ▸ hk) (he pc hpc)⟩

/-- Whoever is inside the pool (a Schedule, the Close, a worker): there is a program-counter kind occupied by
    some goroutine such that a goroutine at that kind can take its next atom *whatever its parameters are*
    (the counters do not record which job a worker runs), provided jobs terminate (gate open).
    `timer = false`: without the workers' expiry timer; this needs that the Close closes the job queue
    (`qclose`) and has begun — an idle worker is then released by the closed channel.
    `timer = true`: the expiry timer may fire (needed when the job queue stays open: an idle worker only
    notices the pool flag after its `time.After`). -/
theorem progress {s} (hi : Inv s) (hg : s.gate = true) (timer : Bool)
    (ht : timer = false → s.qclose = true ∧ s.closeStarted = true)
    (hb : ∃ k, 0 < s.cnt k) :
    ∃ k, 0 < s.cnt k ∧ ∀ pc, kind pc = k → ∃ s' nx, gstep s pc timer = some (s', nx) := by
  -- whoever holds the queue lock (s2, qc1, qc2 writing; w2 reading) never blocks
  by_cases h1 : 0 < s.cnt .s2
  · exact progress_at timer h1 fun pc hpc => by cases pc <;> cases hpc; simp only [step]; repeat' split
                                                all_goals rfl
  by_cases h2 : 0 < s.cnt .qc1
  · exact progress_at timer h2 fun pc hpc => by cases pc <;> cases hpc; simp only [step]; split <;> rfl
  by_cases h3 : 0 < s.cnt .qc2
  · exact progress_at timer h3 fun pc hpc => by cases pc <;> cases hpc; simp only [step]; split <;> rfl
  by_cases h4 : 0 < s.cnt .w2
  · exact progress_at timer h4 fun pc hpc => by cases pc <;> cases hpc; simp only [step]; split <;> rfl
  -- the lock is free: nobody waiting for it blocks either
  have hw : writers s = 0 := by simp only [writers]; omega
  have hr : readers s = 0 := by simp only [readers, hi.fn, if_true]; omega
  by_cases h5 : 0 < s.cnt .s0
  · exact progress_at timer h5 fun pc hpc => by cases pc <;> cases hpc; simp only [step]; split <;> rfl
  by_cases h6 : 0 < s.cnt .s1
  · exact progress_at timer h6 fun pc hpc => by cases pc <;> cases hpc; simp [step, hw, hr]
  by_cases h7 : 0 < s.cnt .ic
  · exact progress_at timer h7 fun pc hpc => by cases pc <;> cases hpc; rfl
  by_cases h8 : 0 < s.cnt .pc0
  · exact progress_at timer h8 fun pc hpc => by cases pc <;> cases hpc; simp only [step]; split <;> rfl
  by_cases h9 : 0 < s.cnt .pc1
  · exact progress_at timer h9 fun pc hpc => by cases pc <;> cases hpc; simp only [step, hw, hr]; split <;> rfl
  by_cases h10 : 0 < s.cnt .w0
  · exact progress_at timer h10 fun pc hpc => by cases pc <;> cases hpc; simp only [step]; split <;> rfl
  by_cases h11 : 0 < s.cnt .w1
  · exact progress_at timer h11 fun pc hpc => by
      cases pc <;> cases hpc; simp only [step, hi.fn, hw, if_true, ne_eq, not_true, if_false]; split <;> rfl
  by_cases h12 : 0 < s.cnt .w4
  · exact progress_at timer h12 fun pc hpc => by
      cases pc <;> cases hpc; simp only [step, hg, Bool.not_true, Bool.and_false, Bool.false_eq_true, if_false]; split <;> rfl
  -- only idle workers are left
  have h13 : 0 < s.cnt .w3 := by
    obtain ⟨k, hk⟩ := hb
    cases k <;> omega
  refine progress_at timer h13 fun pc hpc => ?_
  cases pc <;> cases hpc
  cases hj : s.jobs with
  | cons j rest => simp only [step, hj]; rfl
  | nil =>
    cases timer with
    | true => simp only [step, hj]; split <;> rfl
    | false =>
      obtain ⟨hq, hcs⟩ := ht rfl
      -- the closer is not inside any more, so Close has returned and (qclose) the channel is closed
      have hcd : s.closeDone = true := Bool.of_not_eq_false fun hd => by have := hi.closerIn hcs hd; omega
      simp only [step, hj, hi.doneQ hcd hq, if_true]; rfl

theorem qclose_const {cap qc f s} (h : Reach cap qc f s) : s.qclose = qc := by
  induction h with
  | init => rfl
  | spawn pc _ hs ih =>
    cases pc <;> simp only [spawn] at hs <;> try split at hs
    all_goals cases hs <;> exact ih
  | step pc ch _ hs ih =>
    obtain ⟨_, s1, hs1, rfl⟩ := gstep_some hs
    cases pc <;> simp only [step] at hs1 <;> repeat' split at hs1
    all_goals cases hs1 <;> exact ih
  | gate _ ih => exact ih

end FpgoVerif.C15.Pl
