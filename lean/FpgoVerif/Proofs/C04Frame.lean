import FpgoVerif.Model.C04
/-! C04 — frame lemmas: extension of worlds (`Le`), well-formedness (`Wf`), and "every allocating
    operation yields a well-formed extension" for the primitives and the Stream operations.  `Sort` and
    `SortByIndex`, which write in place, are shown to change the world exactly as plain allocations do. -/
namespace FpgoVerif.C04
open World

variable {w w' : World} {p : Nat} {s : Slice} {m : AMap} {v : Val}

theorem getD_of_prefix {α} {l l' : List α} (h : l <+: l') {i : Nat} (hi : i < l.length) (d : α) :
    l'.getD i d = l.getD i d := by
  obtain ⟨t, rfl⟩ := h
  simp [List.getD_eq_getElem?_getD, List.getElem?_append_left hi]

theorem length_le_of_prefix {α} {l l' : List α} (h : l <+: l') : l.length ≤ l'.length := h.length_le

theorem getD_mem {α} {l : List α} {i : Nat} (hi : i < l.length) (d : α) : l.getD i d ∈ l := by
  simp [List.getD_eq_getElem?_getD, List.getElem?_eq_getElem hi]

theorem getD_mem_or {α} (l : List α) (i : Nat) (d : α) : l.getD i d ∈ l ∨ l.getD i d = d := by
  by_cases hi : i < l.length
  · exact .inl (getD_mem hi d)
  · exact .inr (by simp [List.getD_eq_getElem?_getD, List.getElem?_eq_none (Nat.le_of_not_lt hi)])

theorem mem_concat_or {α} {P : α → Prop} {l : List α} {a x : α} (h : x ∈ l ++ [a]) (ha : P a) : x ∈ l ∨ P x := by
  rcases List.mem_append.mp h with h | h
  · exact .inl h
  · exact .inr (List.mem_singleton.mp h ▸ ha)

theorem getD_concat_length {α} (l : List α) (a d : α) : (l ++ [a]).getD l.length d = a := by
  simp [List.getD_eq_getElem?_getD]

theorem getD_set_self {α} {l : List α} {i : Nat} (hi : i < l.length) (a d : α) : (l.set i a).getD i d = a := by
  simp [List.getD_eq_getElem?_getD, List.getElem?_set_self hi]

theorem set_getD_self {α} (l : List α) (i : Nat) (d : α) : l.set i (l.getD i d) = l := by
  by_cases hi : i < l.length
  · simp [List.getD_eq_getElem?_getD, List.getElem?_eq_getElem hi]
  · exact List.set_eq_of_length_le (Nat.le_of_not_lt hi)

theorem getD_set_ne {α} (l : List α) {i j : Nat} (h : i ≠ j) (a d : α) : (l.set i a).getD j d = l.getD j d := by
  simp [List.getD_eq_getElem?_getD, List.getElem?_set_ne h]

structure Le (w w' : World) : Prop where
  arrs : w.arrs <+: w'.arrs
  strs : w.strs <+: w'.strs
  maps : w.maps <+: w'.maps
  sets : w.sets <+: w'.sets

theorem Le.refl (w : World) : Le w w :=
  ⟨List.prefix_refl _, List.prefix_refl _, List.prefix_refl _, List.prefix_refl _⟩

theorem Le.trans {a b c : World} (h₁ : Le a b) (h₂ : Le b c) : Le a c :=
  ⟨h₁.arrs.trans h₂.arrs, h₁.strs.trans h₂.strs, h₁.maps.trans h₂.maps, h₁.sets.trans h₂.sets⟩

theorem World.ext (h₁ : w.arrs = w'.arrs) (h₂ : w.strs = w'.strs) (h₃ : w.maps = w'.maps)
    (h₄ : w.sets = w'.sets) : w = w' := by
  cases w; cases w'; simp_all

/-- what validity of handles depends on -/
structure Grow (w w' : World) : Prop where
  arrs : w.arrs.length ≤ w'.arrs.length
  strs : w.strs.length ≤ w'.strs.length
  sets : w.sets.length ≤ w'.sets.length
  arrLen : ∀ b, b < w.arrs.length → (w.arrAt b).length ≤ (w'.arrAt b).length

theorem Grow.of_prefix (ha : w.arrs <+: w'.arrs) (hs : w.strs.length ≤ w'.strs.length)
    (ht : w.sets.length ≤ w'.sets.length) : Grow w w' :=
  ⟨ha.length_le, hs, ht, fun _ hb => Nat.le_of_eq (congrArg _ (getD_of_prefix ha hb _).symm)⟩

theorem Le.grow (h : Le w w') : Grow w w' :=
  Grow.of_prefix h.arrs h.strs.length_le h.sets.length_le

def valOk (w : World) : Val → Prop
  | .str (some q) => q < w.strs.length
  | _ => True

def mapOk (w : World) (m : AMap) : Prop := ∀ kv ∈ m, valOk w kv.2

def sliceOk (w : World) (s : Slice) : Prop :=
  s.arr < w.arrs.length ∧ s.off + s.cap ≤ (w.arrAt s.arr).length ∧ s.len ≤ s.cap

structure Wf (w : World) : Prop where
  arr0 : 0 < w.arrs.length
  strs : ∀ s ∈ w.strs, sliceOk w s
  sets : ∀ o ∈ w.sets, ∀ r, o = some r → r < w.maps.length
  maps : ∀ m ∈ w.maps, mapOk w m

def Handle.ok (w : World) : Handle → Prop
  | .arr s _ => sliceOk w s
  | .names _ _ => True
  | .str none => True
  | .str (some p) => p < w.strs.length
  | .set p => p < w.sets.length
  | .sset p => p < w.sets.length
  | .uset p => p < w.sets.length

theorem valOk_grow (h : Grow w w') (hv : valOk w v) : valOk w' v := by
  cases v with
  | int n => trivial
  | str p => cases p with
    | none => trivial
    | some q => exact Nat.lt_of_lt_of_le hv h.strs

theorem mapOk_grow (h : Grow w w') (hm : mapOk w m) : mapOk w' m :=
  fun kv hkv => valOk_grow h (hm kv hkv)

theorem mapOk_nil (w : World) : mapOk w [] := fun _ h => nomatch h

theorem sliceOk_grow (h : Grow w w') (hs : sliceOk w s) : sliceOk w' s :=
  ⟨Nat.lt_of_lt_of_le hs.1 h.arrs, Nat.le_trans hs.2.1 (h.arrLen _ hs.1), hs.2.2⟩

theorem sliceOk_nil (h0 : 0 < w.arrs.length) : sliceOk w Slice.nil :=
  ⟨h0, Nat.zero_le _, Nat.le_refl _⟩

theorem Handle.ok_grow (h : Grow w w') {x : Handle} (hx : x.ok w) : x.ok w' := by
  cases x with
  | arr s f => exact sliceOk_grow h hx
  | names ms b => trivial
  | str p => cases p with
    | none => trivial
    | some q => exact Nat.lt_of_lt_of_le hx h.strs
  | set p | sset p | uset p => exact Nat.lt_of_lt_of_le hx h.sets

theorem Wf.init : Wf World.init := by constructor <;> simp [World.init]

theorem strHdr_ok (hw : Wf w) (p : Nat) : sliceOk w (w.strHdr p) := by
  rcases getD_mem_or w.strs p Slice.nil with h | h
  · exact hw.strs _ h
  · rw [strHdr, h]; exact sliceOk_nil hw.arr0

theorem mapAt_ok (hw : Wf w) (r : Nat) : mapOk w (w.mapAt r) := by
  rcases getD_mem_or w.maps r [] with h | h
  · exact hw.maps _ h
  · rw [mapAt, h]; exact mapOk_nil w

theorem setMap_ok (hw : Wf w) (p : Nat) : mapOk w (w.setMap p) := by
  unfold setMap; split
  · exact mapOk_nil w
  · exact mapAt_ok hw _

theorem sliceContent_length (hs : sliceOk w s) : (w.sliceContent s).length = s.len := by
  simp only [sliceContent, List.length_take, List.length_drop]
  have := hs.2.1; have := hs.2.2; omega

theorem strContent_length (hw : Wf w) (p : Nat) : (w.strContent p).length = (w.strHdr p).len :=
  sliceContent_length (strHdr_ok hw p)

/-- Every primitive, allocating or writing, keeps well-formedness through this.  (`Grow` speaks of what handles
    read; no handle points at a map object, so the map heap is a hypothesis of its own.) -/
theorem Wf.of_grow (hw : Wf w) (g : Grow w w') (hm : w.maps.length ≤ w'.maps.length)
    (strs : ∀ s ∈ w'.strs, s ∈ w.strs ∨ sliceOk w' s)
    (sets : ∀ o ∈ w'.sets, o ∈ w.sets ∨ ∀ r, o = some r → r < w'.maps.length)
    (maps : ∀ m ∈ w'.maps, m ∈ w.maps ∨ mapOk w' m) : Wf w' where
  arr0 := Nat.lt_of_lt_of_le hw.arr0 g.arrs
  strs s hs := (strs s hs).elim (fun h => sliceOk_grow g (hw.strs s h)) id
  sets o ho := (sets o ho).elim (fun h r hr => Nat.lt_of_lt_of_le (hw.sets o h r hr) hm) id
  maps m hm' := (maps m hm').elim (fun h => mapOk_grow g (hw.maps m h)) id

theorem arrAt_le (h : Le w w') {a : Nat} (ha : a < w.arrs.length) : w'.arrAt a = w.arrAt a :=
  getD_of_prefix h.arrs ha _

theorem sliceContent_le (h : Le w w') (hs : s.arr < w.arrs.length) :
    w'.sliceContent s = w.sliceContent s := by
  unfold sliceContent; rw [arrAt_le h hs]

theorem strHdr_le (h : Le w w') (hp : p < w.strs.length) : w'.strHdr p = w.strHdr p :=
  getD_of_prefix h.strs hp _

theorem strContent_le (hw : Wf w) (h : Le w w') (hp : p < w.strs.length) :
    w'.strContent p = w.strContent p := by
  unfold strContent
  rw [strHdr_le h hp, sliceContent_le h (strHdr_ok hw p).1]

theorem setMap_le (hw : Wf w) (h : Le w w') (hp : p < w.sets.length) :
    w'.setMap p = w.setMap p := by
  unfold setMap
  rw [getD_of_prefix h.sets hp]
  cases hr : w.sets.getD p none with
  | none => rfl
  | some r => exact getD_of_prefix h.maps (hw.sets _ (getD_mem hp none) r hr) _

theorem cval_le (hw : Wf w) (h : Le w w') (hv : valOk w v) : cval w' v = cval w v := by
  cases v with
  | int n => rfl
  | str p => cases p with
    | none => rfl
    | some q => simp only [cval]; rw [strContent_le hw h hv]

/-- `setContent` before the sort by key -/
def entriesOf (w : World) (m : AMap) : List (Int × CVal) := m.map (fun kv => (kv.1, cval w kv.2))

theorem entriesOf_le (hw : Wf w) (h : Le w w') (hm : mapOk w m) :
    entriesOf w' m = entriesOf w m :=
  List.map_congr_left fun kv hkv => by rw [cval_le hw h (hm kv hkv)]

theorem setContent_le (hw : Wf w) (h : Le w w') (hp : p < w.sets.length) :
    setContent w' p = setContent w p := by
  show Spec.sortByKey (entriesOf w' (w'.setMap p)) = Spec.sortByKey (entriesOf w (w.setMap p))
  rw [setMap_le hw h hp, entriesOf_le hw h (setMap_ok hw p)]

theorem content_le (hw : Wf w) (h : Le w w') {x : Handle} (hx : x.ok w) :
    content w' x = content w x := by
  cases x with
  | arr s f => simp only [content, sliceContent, sliceHidden, arrAt_le h hx.1]
  | names ms b => rfl
  | str p => cases p with
    | none => rfl
    | some q => simp only [content]; rw [strContent_le hw h hx]
  | set p | sset p | uset p => simp only [content]; rw [setContent_le hw h hx]

structure Good (w w' : World) : Prop where
  le : Le w w'
  wf : Wf w'

theorem Good.refl (hw : Wf w) : Good w w := ⟨Le.refl w, hw⟩

theorem Good.trans {a b c : World} (h₁ : Good a b) (h₂ : Good b c) : Good a c := ⟨h₁.le.trans h₂.le, h₂.wf⟩

def StrRes (w : World) (r : World × Nat) : Prop := Good w r.1 ∧ r.2 < r.1.strs.length
def SetRes (w : World) (r : World × Nat) : Prop := Good w r.1 ∧ r.2 < r.1.sets.length
def ArrRes (w : World) (r : World × Slice) : Prop := Good w r.1 ∧ sliceOk r.1 r.2

theorem StrRes.self (hw : Wf w) (hp : p < w.strs.length) : StrRes w (w, p) :=
  ⟨Good.refl hw, hp⟩

theorem SetRes.self (hw : Wf w) (hp : p < w.sets.length) : SetRes w (w, p) :=
  ⟨Good.refl hw, hp⟩

theorem StrRes.after {w w₁ : World} {r : World × Nat} (g : Good w w₁) (h : StrRes w₁ r) : StrRes w r :=
  ⟨g.trans h.1, h.2⟩

theorem SetRes.after {w w₁ : World} {r : World × Nat} (g : Good w w₁) (h : SetRes w₁ r) : SetRes w r :=
  ⟨g.trans h.1, h.2⟩

theorem arrAt_allocArr_new (w : World) (l : List Int) : (w.allocArr l).1.arrAt w.arrs.length = l :=
  getD_concat_length _ _ _

theorem strHdr_allocStr_new (w : World) (s : Slice) : (w.allocStr s).1.strHdr w.strs.length = s :=
  getD_concat_length _ _ _

theorem allocArr_snd (w : World) (l : List Int) : (w.allocArr l).2 = ⟨w.arrs.length, 0, l.length, l.length⟩ := rfl

theorem allocArr_le (w : World) (l : List Int) : Le w (w.allocArr l).1 :=
  ⟨List.prefix_append _ _, List.prefix_refl _, List.prefix_refl _, List.prefix_refl _⟩

theorem allocArr_good (hw : Wf w) (l : List Int) : ArrRes w (w.allocArr l) := by
  have le := allocArr_le w l
  refine ⟨⟨le, hw.of_grow le.grow (Nat.le_refl _) (fun _ => .inl) (fun _ => .inl) (fun _ => .inl)⟩, ?_, ?_, Nat.le_refl _⟩
  · simp [allocArr]
  · show 0 + l.length ≤ ((w.allocArr l).1.arrAt w.arrs.length).length
    rw [arrAt_allocArr_new]; omega

theorem allocStr_good (hw : Wf w) (hs : sliceOk w s) : StrRes w (w.allocStr s) := by
  have le : Le w (w.allocStr s).1 := ⟨List.prefix_refl _, List.prefix_append _ _, List.prefix_refl _, List.prefix_refl _⟩
  exact ⟨⟨le, hw.of_grow le.grow (Nat.le_refl _) (fun _ h => mem_concat_or h hs) (fun _ => .inl) (fun _ => .inl)⟩,
    by simp [allocStr]⟩

theorem allocMap_good (hw : Wf w) (hm : mapOk w m) :
    Good w (w.allocMap m).1 ∧ (w.allocMap m).2 < (w.allocMap m).1.maps.length := by
  have le : Le w (w.allocMap m).1 := ⟨List.prefix_refl _, List.prefix_refl _, List.prefix_append _ _, List.prefix_refl _⟩
  exact ⟨⟨le, hw.of_grow le.grow le.maps.length_le (fun _ => .inl) (fun _ => .inl) (fun _ h => mem_concat_or h hm)⟩,
    by simp [allocMap]⟩

theorem allocSet_good (hw : Wf w) {o : Option Nat} (ho : ∀ r, o = some r → r < w.maps.length) :
    SetRes w (w.allocSet o) := by
  have le : Le w (w.allocSet o).1 := ⟨List.prefix_refl _, List.prefix_refl _, List.prefix_refl _, List.prefix_append _ _⟩
  exact ⟨⟨le, hw.of_grow le.grow (Nat.le_refl _) (fun _ => .inl) (fun _ h => mem_concat_or (P := fun o => ∀ r, o = some r → r < w.maps.length) h ho) (fun _ => .inl)⟩,
    by simp [allocSet]⟩

theorem ArrRes.allocStr {r : World × Slice} (h : ArrRes w r) {len : Nat} (hl : len ≤ r.2.cap) :
    StrRes w (r.1.allocStr { r.2 with len := len }) :=
  .after h.1 (allocStr_good h.1.wf ⟨h.2.1, h.2.2.1, hl⟩)

theorem newStream_res (hw : Wf w) (l : List Int) (tail : Nat) : StrRes w (w.newStream l tail) :=
  (allocArr_good hw (l ++ List.replicate tail 0)).allocStr (by simp [allocArr])

theorem newNilStream_res (hw : Wf w) : StrRes w w.newNilStream := allocStr_good hw (sliceOk_nil hw.arr0)

theorem newSet_res (hw : Wf w) (hm : mapOk w m) : SetRes w (w.newSet m) :=
  have h := allocMap_good hw hm
  .after h.1 (allocSet_good h.1.wf fun _ hr => Option.some.inj hr ▸ h.2)

theorem newNilSet_res (hw : Wf w) : SetRes w w.newNilSet := allocSet_good hw nofun

theorem strClone_res (hw : Wf w) (p : Nat) : StrRes w (w.strClone p) :=
  (allocArr_good hw _).allocStr (Nat.le_refl _)

/-- the two shapes every persistent operation has: the receiver itself, or a freshly allocated object -/
theorem StrRes.ite (hw : Wf w) (hp : p < w.strs.length) (c : Prop) [Decidable c]
    (l : List Int) (tail : Nat) : StrRes w (if c then (w, p) else w.newStream l tail) := by
  split
  · exact .self hw hp
  · exact newStream_res hw l tail

theorem SetRes.ite (hw : Wf w) (hp : p < w.sets.length) (c : Prop) [Decidable c]
    (hm : mapOk w m) : SetRes w (if c then (w, p) else w.newSet m) := by
  split
  · exact .self hw hp
  · exact newSet_res hw hm

theorem arrAt_writeArr_self {a : Nat} (ha : a < w.arrs.length) (pos : Nat) (l : List Int) :
    (w.writeArr a pos l).arrAt a = (w.arrAt a).take pos ++ l ++ (w.arrAt a).drop (pos + l.length) :=
  getD_set_self ha _ _

theorem arrAt_writeArr_ne (w : World) {a b : Nat} (h : a ≠ b) (pos : Nat) (l : List Int) :
    (w.writeArr a pos l).arrAt b = w.arrAt b :=
  getD_set_ne _ h _ _

theorem strHdr_setStrHdr_self (hp : p < w.strs.length) (s : Slice) :
    (w.setStrHdr p s).strHdr p = s :=
  getD_set_self hp _ _

theorem strHdr_setStrHdr_ne (w : World) {p q : Nat} (h : p ≠ q) (s : Slice) : (w.setStrHdr p s).strHdr q = w.strHdr q :=
  getD_set_ne _ h _ _

theorem writeArr_of_ge {a : Nat} (ha : w.arrs.length ≤ a) (pos : Nat) (l : List Int) :
    w.writeArr a pos l = w := by
  simp [writeArr, List.set_eq_of_length_le ha]

theorem writeArr_arrAt_len (w : World) (a pos : Nat) (l : List Int) (b : Nat) :
    (w.arrAt b).length ≤ ((w.writeArr a pos l).arrAt b).length := by
  by_cases hab : a = b
  · subst hab
    by_cases ha : a < w.arrs.length
    · rw [arrAt_writeArr_self ha]
      simp only [List.length_append, List.length_take, List.length_drop]
      omega
    · rw [writeArr_of_ge (Nat.le_of_not_lt ha)]; exact Nat.le_refl _
  · rw [arrAt_writeArr_ne w hab]; exact Nat.le_refl _

theorem writeArr_grow (w : World) (a pos : Nat) (l : List Int) : Grow w (w.writeArr a pos l) :=
  ⟨by simp [writeArr], Nat.le_refl _, Nat.le_refl _, fun b _ => writeArr_arrAt_len w a pos l b⟩

theorem writeArr_wf (hw : Wf w) (a pos : Nat) (l : List Int) : Wf (w.writeArr a pos l) :=
  hw.of_grow (writeArr_grow w a pos l) (Nat.le_refl _) (fun _ => .inl) (fun _ => .inl) (fun _ => .inl)

theorem setStrHdr_wf (hw : Wf w) (p : Nat) (hs : sliceOk w s) : Wf (w.setStrHdr p s) :=
  hw.of_grow ⟨Nat.le_refl _, by simp [setStrHdr], Nat.le_refl _, fun _ _ => Nat.le_refl _⟩ (Nat.le_refl _)
    (fun _ ht => by
      rcases List.mem_or_eq_of_mem_set ht with h | rfl
      · exact .inl h
      · exact .inr hs) (fun _ => .inl) (fun _ => .inl)

theorem writeMap_wf (hw : Wf w) (r : Nat) (hm : mapOk w m) : Wf (w.writeMap r m) :=
  hw.of_grow ⟨Nat.le_refl _, Nat.le_refl _, Nat.le_refl _, fun _ _ => Nat.le_refl _⟩ (by simp [writeMap]) (fun _ => .inl) (fun _ => .inl)
    (fun _ hm' => by
      rcases List.mem_or_eq_of_mem_set hm' with h | rfl
      · exact .inl h
      · exact .inr hm)

theorem strInter_res (hw : Wf w) (p : Nat) (q : Option Nat) : StrRes w (w.strInter p q) := by
  unfold strInter
  split
  · exact newNilStream_res hw
  · split
    · exact newNilStream_res hw
    · exact newStream_res hw _ _

theorem strMinus_res (hw : Wf w) (hp : p < w.strs.length) (q : Option Nat) :
    StrRes w (w.strMinus p q) := by
  cases q with
  | none => exact .self hw hp
  | some q => exact .ite hw hp _ _ _

theorem strRemoveItem_res (hw : Wf w) (hp : p < w.strs.length) (items : List Int) :
    StrRes w (w.strRemoveItem p items) := .ite hw hp _ _ _

theorem strExtend_res (hw : Wf w) (hp : p < w.strs.length) (args : List (Option Nat)) :
    StrRes w (w.strExtend p args) := .ite hw hp _ _ _

theorem strConcat_res (hw : Wf w) (hp : p < w.strs.length) (slices : List Slice) :
    StrRes w (w.strConcat p slices) := by
  unfold strConcat
  split
  · exact .self hw hp
  · exact .after (allocArr_good hw _).1 (newStream_res (allocArr_good hw _).1.wf _ _)

theorem strAppend_res (hw : Wf w) (hp : p < w.strs.length) (items : List Int) :
    StrRes w (w.strAppend p items) :=
  have h := (allocArr_good hw items).1
  .after h (strConcat_res h.wf (Nat.lt_of_lt_of_le hp h.le.strs.length_le) _)

theorem strRemoveG_res (hw : Wf w) (hp : p < w.strs.length) (i : Int) :
    StrRes w (w.strRemoveG p i) := by
  unfold strRemoveG
  split
  · exact newStream_res hw _ _
  · exact .self hw hp

theorem sortBy_length (less : Int → Int → Bool) (l : List Int) : (Spec.sortBy less l).length = l.length :=
  List.length_mergeSort _

theorem write_read (A : List Int) (off : Nat) (l : List Int) (hb : off ≤ A.length) :
    ((A.take off ++ l ++ A.drop (off + l.length)).drop off).take l.length = l := by
  rw [List.append_assoc, List.drop_left' (List.length_take_of_le hb), List.take_left]

theorem take_append_drop_len (d : List Int) (len : Nat) : d.take len ++ d.drop (d.take len).length = d := by
  rw [List.length_take]
  rcases Nat.le_total len d.length with h | h
  · rw [Nat.min_eq_left h, List.take_append_drop]
  · rw [Nat.min_eq_right h, List.take_of_length_le h, List.drop_length, List.append_nil]

theorem restore_list (A : List Int) (off len : Nat) (sorted : List Int)
    (hlen : sorted.length = ((A.drop off).take len).length) :
    (A.take off ++ sorted ++ A.drop (off + sorted.length)).take off ++ (A.drop off).take len
      ++ (A.take off ++ sorted ++ A.drop (off + sorted.length)).drop (off + ((A.drop off).take len).length) = A := by
  by_cases h : off ≤ A.length
  · have h1 := List.length_take_of_le h
    rw [List.append_assoc (A.take off), List.take_left' h1, ← hlen, ← List.append_assoc,
      List.drop_left' (by rw [List.length_append, h1]), hlen, ← List.drop_drop, List.append_assoc,
      take_append_drop_len, List.take_append_drop]
  · have h' : A.length ≤ off := by omega
    have hd : A.drop off = [] := List.drop_of_length_le h'
    simp [hd] at hlen
    subst hlen
    simp [hd, List.take_of_length_le h']

theorem sliceContent_writeArr_ne (w : World) (a pos : Nat) (l : List Int) (hs : s.arr ≠ a) :
    (w.writeArr a pos l).sliceContent s = w.sliceContent s := by
  unfold sliceContent; rw [arrAt_writeArr_ne w (Ne.symm hs)]

theorem sliceContent_writeArr_self (hs : sliceOk w s) {l : List Int} (hl : l.length = s.len) :
    (w.writeArr s.arr s.off l).sliceContent s = l := by
  unfold sliceContent
  rw [arrAt_writeArr_self hs.1, ← hl]
  exact write_read _ _ _ (by have := hs.2.1; omega)

theorem sliceContent_allocArr_new (w : World) (l : List Int) : (w.allocArr l).1.sliceContent (w.allocArr l).2 = l := by
  show (((w.allocArr l).1.arrAt w.arrs.length).drop 0).take l.length = l
  rw [arrAt_allocArr_new, List.drop_zero, List.take_length]

theorem strContent_allocStr_new (w : World) (s : Slice) : (w.allocStr s).1.strContent w.strs.length = w.sliceContent s := by
  unfold strContent; rw [strHdr_allocStr_new]; rfl

theorem strContent_newStream (w : World) (l : List Int) (tail : Nat) :
    (w.newStream l tail).1.strContent (w.newStream l tail).2 = l := by
  refine (strContent_allocStr_new _ _).trans ?_
  show (((w.allocArr (l ++ List.replicate tail 0)).1.arrAt w.arrs.length).drop 0).take l.length = l
  rw [arrAt_allocArr_new, List.drop_zero, List.take_left]

theorem strClone_content (w : World) (p : Nat) : (w.strClone p).1.strContent (w.strClone p).2 = w.strContent p :=
  (strContent_allocStr_new _ _).trans (sliceContent_allocArr_new _ _)

theorem strClone_arrs (w : World) (p : Nat) : (w.strClone p).1.arrs = w.arrs ++ [w.sliceContent (w.strHdr p)] := rfl
theorem strClone_strs (w : World) (p : Nat) : (w.strClone p).1.strs = w.strs ++ [⟨w.arrs.length, 0, (w.sliceContent (w.strHdr p)).length, (w.sliceContent (w.strHdr p)).length⟩] := rfl
theorem strClone_snd (w : World) (p : Nat) : (w.strClone p).2 = w.strs.length := rfl

theorem newStream_zero (w : World) (l : List Int) : w.newStream l = (w.allocArr l).1.allocStr (w.allocArr l).2 := by
  show (w.allocArr (l ++ [])).1.allocStr ⟨w.arrs.length, 0, l.length, (l ++ []).length⟩ = _
  rw [List.append_nil]; rfl

theorem writeArr_allocArr {a : Nat} (ha : a < w.arrs.length) (pos : Nat) (l x : List Int) :
    (w.allocArr x).1.writeArr a pos l = ((w.writeArr a pos l).allocArr x).1 := by
  refine World.ext ?_ rfl rfl rfl
  show (w.arrs ++ [x]).set a _ = w.arrs.set a _ ++ [x]
  rw [arrAt_le (allocArr_le w x) ha, List.set_append_left _ _ ha]

theorem writeArr_restore (hs : s.arr < w.arrs.length) {l : List Int}
    (hl : l.length = (w.sliceContent s).length) :
    (w.writeArr s.arr s.off l).writeArr s.arr s.off (w.sliceContent s) = w := by
  refine World.ext ?_ rfl rfl rfl
  show (w.arrs.set s.arr _).set s.arr _ = w.arrs
  rw [arrAt_writeArr_self hs, sliceContent, restore_list _ _ _ _ hl, List.set_set]
  exact set_getD_self _ _ _

/-- sort a stream's window in place, clone the stream, copy the old values back: all in all, a new stream holding
    the sorted values was allocated -/
theorem sort_clone_restore {v : World} (hs : v.strHdr p = s) (hso : sliceOk v s) {l : List Int}
    (hl : l.length = s.len) :
    (((v.writeArr s.arr s.off l).strClone p).1.writeArr s.arr s.off (v.sliceContent s),
      ((v.writeArr s.arr s.off l).strClone p).2) = v.newStream l := by
  have hx : (v.writeArr s.arr s.off l).sliceContent ((v.writeArr s.arr s.off l).strHdr p) = l := by
    rw [show (v.writeArr s.arr s.off l).strHdr p = s from hs]; exact sliceContent_writeArr_self hso hl
  have hlen : (v.writeArr s.arr s.off l).arrs.length = v.arrs.length := List.length_set
  rw [newStream_zero]
  refine Prod.ext ?_ rfl
  show ((((v.writeArr s.arr s.off l).allocArr _).1.writeArr s.arr s.off (v.sliceContent s)).allocStr _).1 = _
  rw [writeArr_allocArr (hlen ▸ hso.1), writeArr_restore hso.1 (hl.trans (sliceContent_length hso).symm), hx, hlen]
  rfl

theorem strSort_eq (w : World) (p : Nat) (less : Int → Int → Bool) :
    w.strSort p less = w.newStream (Spec.sortBy less (w.strContent p)) := by
  have hl := sortBy_length less (w.strContent p)
  rw [newStream_zero]
  simp only [strSort]
  rw [show (w.strClone p).1.sliceContent ((w.strClone p).1.strHdr (w.strClone p).2) = _ from strClone_content w p,
    show (w.strClone p).1.strHdr (w.strClone p).2 = _ from strHdr_allocStr_new _ _]
  refine Prod.ext (World.ext ?_ ?_ rfl rfl) rfl
  · show (w.arrs ++ [w.strContent p]).set w.arrs.length _ = w.arrs ++ [Spec.sortBy less (w.strContent p)]
    rw [show (w.strClone p).1.arrAt w.arrs.length = w.strContent p from arrAt_allocArr_new w _,
      List.set_append_right _ _ (Nat.le_refl _), hl]
    simp
  · show w.strs ++ [⟨w.arrs.length, 0, (w.strContent p).length, (w.strContent p).length⟩] = w.strs ++ [_]
    rw [← hl]; rfl

theorem strSortByIndex_eq (hw : Wf w) (hp : p < w.strs.length) (less : Int → Int → Bool) :
    w.strSortByIndex p less = (w.strClone p).1.newStream (Spec.sortBy less (w.strContent p)) := by
  have g1 := strClone_res hw p
  have hso := strHdr_ok hw p
  have hs : (w.strClone p).1.strHdr p = w.strHdr p := strHdr_le g1.1.le hp
  have hc : (w.strClone p).1.sliceContent (w.strHdr p) = w.strContent p := sliceContent_le g1.1.le hso.1
  unfold strSortByIndex
  simp only [hs, hc]
  -- the clone taken first still holds the old values when they are copied back
  have wf2 := writeArr_wf g1.1.wf (w.strHdr p).arr (w.strHdr p).off (Spec.sortBy less (w.strContent p))
  have hne : ((w.strClone p).1.strHdr (w.strClone p).2).arr ≠ (w.strHdr p).arr := by
    rw [show (w.strClone p).1.strHdr (w.strClone p).2 = _ from strHdr_allocStr_new _ _]
    exact Nat.ne_of_gt hso.1
  have hold : ∀ l, ((w.strClone p).1.writeArr (w.strHdr p).arr (w.strHdr p).off l).strContent (w.strClone p).2
      = (w.strClone p).1.sliceContent (w.strHdr p) := fun l =>
    (sliceContent_writeArr_ne _ _ _ _ hne).trans ((strClone_content w p).trans hc.symm)
  rw [strContent_le wf2 (strClone_res wf2 p).1.le g1.2, hold]
  exact sort_clone_restore hs (sliceOk_grow g1.1.le.grow hso) ((sortBy_length _ _).trans (strContent_length hw p))

theorem strSortByIndex_res (hw : Wf w) (hp : p < w.strs.length) (less : Int → Int → Bool) :
    StrRes w (w.strSortByIndex p less) := by
  rw [strSortByIndex_eq hw hp]
  exact .after (strClone_res hw p).1 (newStream_res (strClone_res hw p).1.wf _ _)

/-- the in-place sort of the receiver's storage is undone by the final `copy` -/
theorem strSortByIndex_arrs {w : World} (hw : Wf w) {p : Nat} (hp : p < w.strs.length) (less : Int → Int → Bool) :
    w.arrs <+: (w.strSortByIndex p less).1.arrs :=
  (strSortByIndex_res hw hp less).1.le.arrs

theorem strSort_res (hw : Wf w) (p : Nat) (less : Int → Int → Bool) : StrRes w (w.strSort p less) := by
  rw [strSort_eq]; exact newStream_res hw _ _

end FpgoVerif.C04
