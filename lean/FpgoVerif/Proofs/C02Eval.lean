import FpgoVerif.Model.C02Core
/-! C02 — how `conv` evaluates a clause of the table, and what `specNum` demands of a result: the equations through
    which the cell checkers' soundness proofs use the evaluator and the Spec without unfolding either.  At the end, the
    one-pass test of distinctness that `C02_table_complete` runs on the keys of the table. -/
namespace FpgoVerif.C02

/-- the calls a clause body can make, as `conv` resolves them when `n` levels of sibling calls are left -/
def callOf (sc : Strconv) (tbl : List Case) (n : Nat) (k : Kind) (x : Val) : Src → Res
  | .self m => conv sc tbl n m k x
  | .parseInt bits => sc.parseInt bits (strOf x)
  | .parseUint bits => sc.parseUint bits (strOf x)
  | .parseFloat bits => sc.parseFloat bits (strOf x)
  | .atoi => sc.atoi (strOf x)
  | .parseBool => sc.parseBool (strOf x)
  | .untranslatable _ => Res.garbage

theorem conv_succ (sc : Strconv) (tbl : List Case) (n : Nat) (tgt : Ty) (k : Kind) (x : Val) :
    conv sc tbl (n + 1) tgt k x = evalBody (callOf sc tbl n k x) x (lookup tbl tgt k) := rfl

/-- what a `val, err := call; [if g {] return t [}; return f]` clause returns once the call has returned `r0` -/
def afterCall (r0 : Res) : Option C → R → Option R → Res
  | none, t, _ => evalR r0.val r0.err t
  | some g, t, some f =>
    match evalC r0.val g with
    | some true => evalR r0.val r0.err t
    | some false => evalR r0.val r0.err f
    | none => Res.garbage
  | some _, _, none => Res.garbage

theorem conv_bind {sc : Strconv} {tbl : List Case} {tgt : Ty} {k : Kind} {s : Src} {g : Option C} {t : R}
    {f : Option R} (hb : lookup tbl tgt k = .bind s g t f) (n : Nat) (x : Val) :
    conv sc tbl (n + 1) tgt k x = afterCall (callOf sc tbl n k x s) g t f := by
  rw [conv_succ, hb]
  cases g <;> cases f <;> rfl

theorem afterCall_guard {r0 : Res} {g : C} {b : Bool} (hg : evalC r0.val g = some b) (t f : R) :
    afterCall r0 (some g) t (some f) = evalR r0.val r0.err (if b then t else f) := by
  cases b <;> simp only [afterCall, hg] <;> rfl

theorem afterCall_err {r0 : Res} (he : r0.err ≠ .ok) (g : Option C) (te fe : E) :
    (afterCall r0 g ⟨te, .fromCall⟩ (some ⟨fe, .overflow⟩)).err ≠ .ok := by
  cases g with
  | none => exact he
  | some g =>
    simp only [afterCall]
    split
    · exact he
    · exact ErrK.noConfusion
    · exact ErrK.noConfusion

/-- the `case T:` clause of the method with result type `T` is `return ref.(T), nil` -/
def selfIdent (tbl : List Case) (m : Ty) : Bool := lookup tbl m (.ty m) == Body.ident

theorem conv_ident {sc : Strconv} {tbl : List Case} {tgt : Ty} {k : Kind} (hb : lookup tbl tgt k = .ident)
    (n : Nat) (x : Val) : conv sc tbl (n + 1) tgt k x = ⟨x, .ok⟩ := by
  rw [conv_succ, hb]
  rfl

theorem conv_bind_self {sc : Strconv} {tbl : List Case} {tgt m : Ty} {g : Option C} {t : R} {f : Option R}
    (hb : lookup tbl tgt (.ty m) = .bind (.self m) g t f) (hsi : selfIdent tbl m = true) (n : Nat) (x : Val) :
    conv sc tbl (n + 2) tgt (.ty m) x = afterCall ⟨x, .ok⟩ g t f := by
  rw [conv_bind hb]
  exact congrArg (afterCall · g t f) (conv_ident (eq_of_beq hsi) n x)

theorem castTo_int {t : Ty} {lo hi : Int} (hr : t.range = some (lo, hi)) (z : Int) :
    castTo t (.i z) = .i (wrap lo hi z) := by
  simp only [castTo, hr]

theorem castTo_int_of_mem {t : Ty} {lo hi z : Int} (hr : t.range = some (lo, hi)) (h1 : lo ≤ z) (h2 : z ≤ hi) :
    castTo t (.i z) = .i z := by
  rw [castTo_int hr, wrap_of_mem lo hi z h1 h2]

theorem sameFloat_refl (x : FVal) : sameFloat x x = true := by
  cases x <;> simp [sameFloat]

theorem sameFloat_isFin {c b : FVal} (h : sameFloat c b = true) : c.isFin = b.isFin := by
  cases c <;> cases b <;> first | rfl | cases h

theorem sameFloat_of_common_right {a b c : FVal} (h1 : sameFloat a b = true) (h2 : sameFloat c b = true) :
    sameFloat a c = true := by
  cases a <;> cases b <;> cases c <;> simp [sameFloat] at h1 h2 ⊢
  case inf.inf.inf => rw [h1, h2]
  case fin.fin.fin s1 m1 k1 s2 m2 k2 s3 m3 k3 =>
    obtain ⟨e1, g1⟩ := h1
    obtain ⟨e2, g2⟩ := h2
    -- both sides of the cross product, times `2^k2`, are `m2 · 2^k1 · 2^k3`
    refine ⟨Nat.eq_of_mul_eq_mul_right (Nat.two_pow_pos k2) ?_, ?_⟩
    · rw [Nat.mul_right_comm, e1, Nat.mul_right_comm m3, e2, Nat.mul_right_comm]
    · -- a zero numerator on one side forces zero on the other, so the signs are compared throughout
      have hp : ∀ k, 2 ^ k ≠ 0 := fun k => Nat.ne_of_gt (Nat.two_pow_pos k)
      by_cases hm1 : m1 = 0
      · exact .inl hm1
      · have hm2 : m2 ≠ 0 := fun h0 => by
          rw [h0, Nat.zero_mul] at e1
          exact hm1 ((Nat.mul_eq_zero.mp e1).resolve_right (hp k2))
        have hm3 : m3 ≠ 0 := fun h0 => by
          rw [h0, Nat.zero_mul] at e2
          exact hm2 ((Nat.mul_eq_zero.mp e2.symm).resolve_right (hp k3))
        exact .inr ((g1.resolve_left hm1).trans (g2.resolve_left hm3).symm)

theorem specOK_int (tgt src : Ty) (z : Int) (r : Res) : specOK tgt (.ty src) (.i z) r = specNum tgt (.i z) r := by
  cases src <;> rfl

theorem specNum_int_iff {tgt : Ty} {lo hi mlo mhi : Int} (hr : tgt.range = some (lo, hi))
    (hm : tgt.must = some (mlo, mhi)) (x : Val) (r : Res) :
    specNum tgt x r = true ↔
      (r.err = .ok → ∃ z, exactInt x = some z ∧ r.val = .i z ∧ lo ≤ z ∧ z ≤ hi) ∧
      (fitsInt mlo mhi x = true → r.err = .ok) := by
  simp only [specNum, hr, hm, Bool.and_eq_true, Bool.or_eq_true, bne_iff_ne, ne_eq, beq_iff_eq,
    Bool.not_eq_true', ← Decidable.imp_iff_not_or]
  refine and_congr (imp_congr_right fun _ => ?_) (by rw [← Bool.not_eq_true, ← Decidable.imp_iff_not_or])
  cases exactInt x <;> simp

theorem specNum_int_ok {tgt : Ty} {lo hi mlo mhi z : Int} {x : Val} (hr : tgt.range = some (lo, hi))
    (hm : tgt.must = some (mlo, mhi)) (hx : exactInt x = some z) (h1 : lo ≤ z) (h2 : z ≤ hi) :
    specNum tgt x ⟨.i z, .ok⟩ = true :=
  (specNum_int_iff hr hm x _).mpr ⟨fun _ => ⟨z, hx, rfl, h1, h2⟩, fun _ => rfl⟩

theorem specNum_int_err {tgt : Ty} {lo hi mlo mhi : Int} {x : Val} {r : Res} (hr : tgt.range = some (lo, hi))
    (hm : tgt.must = some (mlo, mhi)) (he : r.err ≠ .ok) (hf : fitsInt mlo mhi x = true → False) :
    specNum tgt x r = true :=
  (specNum_int_iff hr hm x r).mpr ⟨fun h => absurd h he, fun h => (hf h).elim⟩

/-- a float result that is the nearest value `y` itself: left to show is that a finite source has not become ±Inf -/
theorem specNum_float_ok {tgt : Ty} {f : Fmt} {x v : Val} {y : FVal}
    (ht : tgt.fmt = some f) (hv : valOfTy tgt v = true) (hy : floatOf v = some y) (hx : exactFloat f x = some y)
    (hfin : (match floatOf x with | some s => s.isFin | none => true) = true → y.isFin = true) :
    specNum tgt x ⟨v, .ok⟩ = true := by
  have := (Bool.eq_false_or_eq_true (match floatOf x with | some s => s.isFin | none => true)).symm.imp_right hfin
  cases tgt <;> cases ht <;> cases v <;> cases hv <;> cases hy <;>
    simp [specNum, Ty.range, Ty.must, Ty.fmt, hx, floatOf, valOfTy, sameFloat_refl] <;> exact this

def distinctNats : List Nat → (seen : Nat := 0) → Bool
  | [], _ => true
  | c :: cs, seen => !seen.testBit c && distinctNats cs (seen ||| 1 <<< c)

theorem distinctNats_sound {l : List Nat} {seen : Nat} (h : distinctNats l seen = true) :
    (∀ c ∈ l, seen.testBit c = false) ∧ l.Nodup := by
  induction l generalizing seen with
  | nil => exact ⟨nofun, .nil⟩
  | cons c cs ih =>
    simp only [distinctNats, Bool.and_eq_true, Bool.not_eq_true'] at h
    obtain ⟨hcs, hnd⟩ := ih h.2
    simp only [Nat.testBit_or, Bool.or_eq_false_iff] at hcs
    refine ⟨fun d hd => ?_, List.nodup_cons.mpr ⟨fun hc => ?_, hnd⟩⟩
    · rcases List.mem_cons.mp hd with rfl | hd
      · exact h.1
      · exact (hcs d hd).1
    · -- `c` would be among the numbers seen before `cs`
      have := (hcs c hc).2
      rw [Nat.one_shiftLeft, Nat.testBit_two_pow_self] at this
      cases this

end FpgoVerif.C02
