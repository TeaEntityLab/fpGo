import FpgoVerif.Proofs.C04Mut
/-! C04 — the step invariant: executing ANY operation of the alphabet from a well-formed state with valid
    handles gives a well-formed state with valid handles, and for every operation that is not a documented
    mutator (or a write of the caller) the new world is an extension of the old one. -/
namespace FpgoVerif.C04
open World

variable {w w' : World} {p : Nat} {iface : Bool} {st : State} {op : Op} {n : String}

def EnvOk (w : World) (env : List (String × Handle)) : Prop := ∀ e ∈ env, e.2.ok w

structure Inv (st : State) : Prop where
  wf : Wf st.w
  env : EnvOk st.w st.env

theorem Inv.init : Inv State.init := ⟨Wf.init, nofun⟩

theorem EnvOk.grow {w w' : World} (h : Grow w w') {env} (he : EnvOk w env) : EnvOk w' env :=
  fun e hm => Handle.ok_grow h (he e hm)

theorem find_ok (hi : Inv st) {x : Handle} (h : st.find n = some x) : x.ok st.w := by
  unfold State.find at h
  split at h
  · cases h; exact hi.env _ (List.mem_of_find?_eq_some ‹_›)
  · cases h

theorem findStr_lt (hi : Inv st) (h : findStr st n = some p) :
    p < st.w.strs.length := by
  unfold findStr at h
  split at h
  · cases h; exact find_ok hi ‹_›
  · cases h

theorem findStrArg_ok (hi : Inv st) {a : Option String} {q : Option Nat} (h : findStrArg st a = some q) :
    valOk st.w (.str q) := by
  cases q with
  | none => trivial
  | some q' =>
    cases a with
    | none => cases h
    | some n =>
      simp only [findStrArg] at h
      split at h
      · cases h; exact find_ok hi ‹_›
      · cases h

theorem findArr_ok (hi : Inv st) {s : Slice} {f : Bool} (h : findArr st n = some (s, f)) :
    sliceOk st.w s := by
  unfold findArr at h
  split at h
  · cases h; exact find_ok hi ‹_›
  · cases h

theorem findArrArg_lt {st : State} (hi : Inv st) {a : Option String} {s : Slice} (h : findArrArg st a = some s) :
    s.arr < st.w.arrs.length := by
  cases a with
  | none => cases h; exact hi.wf.arr0
  | some n =>
    obtain ⟨⟨s', f⟩, hs, rfl⟩ := Option.map_eq_some_iff.mp h
    exact (findArr_ok hi hs).1

theorem findSetLike_lt (hi : Inv st) {b : Bool}
    (h : findSetLike st n = some (p, b)) : p < st.w.sets.length := by
  unfold findSetLike at h
  split at h
  · cases h; exact find_ok hi ‹_›
  · cases h; exact find_ok hi ‹_›
  · cases h

def ExecOk (iface : Bool) (st : State) (op : Op) : Res → Prop
  | .ok w new _ => Wf w ∧ Grow st.w w ∧ (∀ e ∈ new, e.2.ok w) ∧ (op.isMutator iface = false → Le st.w w)
  | .err _ => True

theorem execOk_new {d out : String} {h : Handle} (g : Good st.w w ∧ h.ok w) :
    ExecOk iface st op (.ok w (some (d, h)) out) :=
  ⟨g.1.wf, g.1.le.grow, fun _ he => by cases he; exact g.2, fun _ => g.1.le⟩

theorem execOk_obs {out : String} (hi : Inv st) : ExecOk iface st op (.ok st.w none out) :=
  ⟨hi.wf, (Le.refl _).grow, nofun, fun _ => Le.refl _⟩

theorem execOk_mut {out : String} (hm : op.isMutator iface = true) (hw : Wf w) (g : Grow st.w w) :
    ExecOk iface st op (.ok w none out) :=
  ⟨hw, g, nofun, fun h => by rw [hm] at h; cases h⟩

theorem execS1_ok (iface : Bool) (hi : Inv st) (hp : p < st.w.strs.length) (k : S1) (d s out : String) :
    ExecOk iface st (.s1 d s k)
      (.ok (execS1 iface st.w p k).1 (some (d, .str (some (execS1 iface st.w p k).2))) out) := by
  cases k with
  | map f | filter f | reject f | notnil | notnilp | distinct | reverse => exact execOk_new (newStream_res hi.wf _ _)
  | clone => exact execOk_new (strClone_res hi.wf p)
  | sort c => exact execOk_new (strSort_res hi.wf p _)
  | sortidx c => exact execOk_new (strSortByIndex_res hi.wf hp _)
  | rmitem vs => exact execOk_new (strRemoveItem_res hi.wf hp vs)
  | append vs => exact execOk_new (strAppend_res hi.wf hp vs)
  | remove i =>
    cases iface with
    | false => exact execOk_new (strRemoveG_res hi.wf hp i)
    | true =>
      -- the in-place mutator returns its receiver
      have h := strRemoveI_wf hi.wf p i
      exact ⟨h.1, h.2.1, fun _ he => by cases he; exact (strRemoveI_snd st.w p i).symm ▸ Nat.lt_of_lt_of_le hp h.2.1.strs,
        fun hm => by cases hm⟩

theorem valOk_zeroVal (w : World) (iface streams : Bool) : valOk w (zeroVal iface streams) := by
  unfold zeroVal; split
  · trivial
  · split <;> trivial

theorem execM1_res (iface streams : Bool) (hw : Wf w) (hp : p < w.sets.length) (k : M1)
    {r : World × Nat} (h : execM1 iface streams w p k = some r) : SetRes w r := by
  have hm := setMap_ok hw p
  cases k with
  | mapkey f => cases h; exact newSet_res hw (mapOk_mapKeys hm _)
  | mapval f =>
    simp only [execM1] at h
    split at h
    · cases h
    · cases h; exact newSet_res hw (mapOk_map _ _ fun _ => trivial)
  | add vs => cases h; exact .ite hw hp _ (mapOk_foldl_insertIfAbsent (valOk_zeroVal w iface streams) vs hm)
  | rmkeys vs => cases h; exact .ite hw hp _ (mapOk_filter hm _)
  | rmvals vs =>
    simp only [execM1] at h
    split at h
    · cases h
    · cases h; exact .ite hw hp _ (mapOk_filter hm _)
  | clone =>
    cases h
    split
    · exact (ssClone_spec hw p).1
    · exact newSet_res hw hm

theorem execM2_res (streams : Bool) (hw : Wf w) (hp : p < w.sets.length) (q : Option Nat)
    (k : M2) {r : World × Nat} (h : execM2 streams w p q k = some r) : SetRes w r := by
  have hm := setMap_ok hw p
  cases k with
  | union =>
    cases h
    cases q with
    | none => split <;> exact .self hw hp
    | some q =>
      split
      · exact (ssUnion_some hw hp q).1
      · exact .ite hw hp _ (mapOk_merge hm (setMap_ok hw q))
  | inter =>
    cases h
    split
    · cases q with
      | none => exact newSet_res hw (mapOk_nil w)
      | some q => exact (ssInter_some hw p q).1
    · unfold setInter
      split
      · exact newNilSet_res hw
      · split
        · exact newNilSet_res hw
        · exact newSet_res hw (mapOk_filter hm _)
  | minus =>
    cases h
    cases q with
    | none => exact .self hw hp
    | some q => exact .ite hw hp _ (mapOk_filter hm _)
  | minusStreams =>
    simp only [execM2] at h
    split at h
    · cases h
      cases q with
      | none => exact newSet_res hw (mapOk_nil w)
      | some q => exact (ssMinusStreams_some hw p q).1
    · cases h

theorem m1Kind_ok (streams : Bool) (k : M1) (hp : p < w.sets.length) : (m1Kind streams k p).ok w := by
  unfold m1Kind; split
  · exact hp
  · split <;> exact hp

theorem m2Kind_ok (iface streams : Bool) (k : M2) (hp : p < w.sets.length) :
    (m2Kind iface streams k p).ok w := by
  unfold m2Kind; split
  · exact hp
  · split
    · split <;> exact hp
    · exact hp

theorem allSome_mem {α} : ∀ {l : List (Option α)} {r : List α}, allSome l = some r → ∀ x ∈ r, some x ∈ l
  | [], r, h, x, hx => by cases h; cases hx
  | none :: t, r, h, x, hx => by cases h
  | some a :: t, r, h, x, hx => by
    obtain ⟨r', hr', rfl⟩ := Option.map_eq_some_iff.mp h
    rcases List.mem_cons.mp hx with rfl | hm
    · exact List.mem_cons_self ..
    · exact List.mem_cons_of_mem _ (allSome_mem hr' x hm)

theorem execExtend_ok (hi : Inv st) (dst src : String) (args : List (Option String)) :
    ExecOk iface st op (execExtend st dst src args) := by
  unfold execExtend; split
  · rename_i p qs hp _
    exact execOk_new (strExtend_res hi.wf (findStr_lt hi hp) qs)
  · trivial

theorem execConcat_ok (hi : Inv st) (dst src : String) (args : List (Option String)) :
    ExecOk iface st op (execConcat st dst src args) := by
  unfold execConcat; split
  · rename_i p ss hp _
    exact execOk_new (strConcat_res hi.wf (findStr_lt hi hp) ss)
  · trivial

/-- `StreamSetFrom…`: one fresh nil stream per key, then the set cell -/
theorem tfrom_res (hw : Wf w) (l : List Int) :
    let r := mapEntriesM (fun w _ _ => let (w, q) := w.newNilStream; (w, .str (some q))) w (Spec.ofKeys (Val.str none) l)
    SetRes w (r.1.newSet r.2) :=
  (newSet_after (mapEntriesM_res (fun w _ _ => (w.newNilStream.1, Val.str (some w.newNilStream.2)))
    (fun _ _ _ g _ => ⟨(newNilStream_res g.wf).1, (newNilStream_res g.wf).2⟩) _ w (Good.refl hw)
    (mapOk_ofKeys (v := Val.str none) trivial l))).1

/-- `Set` on a set / stream set: a map object is written, or (nil map) the call panics -/
theorem execOk_setSet (hm : op.isMutator iface = true) (hi : Inv st) (p : Nat) (k : Int) {v : Val} (hv : valOk st.w v) :
    ExecOk iface st op (match st.w.setSet p k v with
      | some w => .ok w none "ok"
      | none => .ok st.w none "panic") := by
  split
  · rename_i w' hw'
    have h := setSet_wf hi.wf hv hw'
    exact execOk_mut hm h.1 h.2.1
  · exact execOk_obs hi

theorem exec_ok (iface : Bool) (hi : Inv st) (op : Op) : ExecOk iface st op (exec iface st op) := by
  cases op <;> simp only [exec]
  case arr dst len vals =>
    split
    · rename_i hlen
      have h := allocArr_good hi.wf vals
      exact execOk_new ⟨h.1, h.2.1, h.2.2.1, hlen⟩
    · trivial
  case sub dst src lo hi' =>
    split
    · rename_i s f hs
      split
      · rename_i hc
        have ho := findArr_ok hi hs
        refine execOk_new ⟨Good.refl hi.wf, ho.1, ?_, ?_⟩
        · have := ho.2.1; show s.off + lo + (s.cap - lo) ≤ (st.w.arrAt s.arr).length; omega
        · show hi' - lo ≤ s.cap - lo; omega
      · trivial
    · trivial
  case wr a i v =>
    split
    · split
      · exact execOk_mut rfl (writeArr_wf hi.wf _ _ _) (writeArr_grow _ _ _ _)
      · trivial
    · trivial
  case sfrom dst a =>
    split
    · rename_i s f hs
      exact execOk_new (allocStr_good hi.wf (findArr_ok hi hs))
    · trivial
  case toArr dst s =>
    split
    · rename_i p hp
      exact execOk_new (allocArr_good hi.wf (st.w.strContent p))
    · trivial
  case s1 dst src k =>
    split
    · rename_i p hp
      exact execS1_ok iface hi (findStr_lt hi hp) k dst src _
    · trivial
  case sinter dst src arg =>
    split
    · rename_i p q hp hq
      exact execOk_new (strInter_res hi.wf p q)
    · trivial
  case sminus dst src arg =>
    split
    · rename_i p q hp hq
      exact execOk_new (strMinus_res hi.wf (findStr_lt hi hp) q)
    · trivial
  case extend dst src args => exact execExtend_ok hi dst src args
  case concat dst src args => exact execConcat_ok hi dst src args
  case mklist dst ms b =>
    have ok : ExecOk iface st (.mklist dst ms b) (.ok st.w (some (dst, .names ms b)) "ok") :=
      execOk_new ⟨Good.refl hi.wf, trivial⟩
    split <;> split
    · exact ok
    · trivial
    · exact ok
    · trivial
  case extendv dst src l =>
    split
    · exact execExtend_ok hi dst src _
    · trivial
  case concatv dst src l =>
    split
    · exact execConcat_ok hi dst src _
    · trivial
  case s1v dst src a app =>
    split
    · rename_i p s f hp hs
      have h := execS1_ok iface hi (findStr_lt hi hp)
        (if app then S1.append (st.w.sliceContent s) else S1.rmitem (st.w.sliceContent s)) dst src "ok"
      exact ⟨h.1, h.2.1, h.2.2.1, fun _ => h.2.2.2 (by cases app <;> rfl)⟩
    · trivial
  case m1v dst src a k =>
    split
    · rename_i p streams s f hp hs
      split
      · rename_i w q hq
        have h := execM1_res iface streams hi.wf (findSetLike_lt hi hp) _ hq
        exact execOk_new ⟨h.1, m1Kind_ok _ _ h.2⟩
      · trivial
    · trivial
  -- every observer answers `.ok st.w none _` (the world as it is, no new handle) or `.err`
  case slen s | shas s v | srel s arg sup | mhaskey m k | mhasval m v | msize m | mget m k =>
    split <;> first | exact execOk_obs hi | trivial
  case sget s i =>
    split
    · split <;> exact execOk_obs hi
    · trivial
  case mrel m arg sup =>
    split
    · split <;> first | exact execOk_obs hi | trivial
    · trivial
  case setFrom dst vs =>
    exact execOk_new (newSet_res hi.wf (mapOk_ofKeys (valOk_zeroVal st.w iface false) vs))
  case setFromArr dst a =>
    split
    · rename_i s f hs
      exact execOk_new (newSet_res hi.wf (mapOk_ofKeys (valOk_zeroVal st.w iface false) (st.w.sliceContent s)))
    · trivial
  case setFromMap dst kvs =>
    exact execOk_new (newSet_res hi.wf (mapOk_ofPairs (mapOk_map kvs _ fun _ => trivial)))
  case tnew dst =>
    exact execOk_new (newSet_res hi.wf (mapOk_nil st.w))
  case tfrom dst vs =>
    exact execOk_new (tfrom_res hi.wf vs)
  case tfromArr dst a =>
    split
    · rename_i s f hs
      exact execOk_new (tfrom_res hi.wf (st.w.sliceContent s))
    · trivial
  case tfromMap dst kvs =>
    split
    · rename_i es hes
      split
      · trivial
      · have hm : mapOk st.w (es.map (fun e => (e.1, Val.str e.2))) := by
          intro kv hkv
          obtain ⟨e, he, rfl⟩ := List.mem_map.mp hkv
          obtain ⟨kv', _, hkv'⟩ := List.mem_map.mp (allSome_mem hes e he)
          obtain ⟨q, hq, rfl⟩ := Option.map_eq_some_iff.mp hkv'
          exact findStrArg_ok hi hq
        exact execOk_new (newSet_res hi.wf (mapOk_ofPairs hm))
    · trivial
  case m1 dst src k =>
    split
    · rename_i p streams hp
      split
      · rename_i w q hq
        have h := execM1_res iface streams hi.wf (findSetLike_lt hi hp) k hq
        exact execOk_new ⟨h.1, m1Kind_ok _ k h.2⟩
      · trivial
    · trivial
  case m2 dst src arg k =>
    split
    · rename_i p streams hp
      split
      · rename_i q hq
        split
        · rename_i w r hr
          have h := execM2_res streams hi.wf (findSetLike_lt hi hp) q k hr
          exact execOk_new ⟨h.1, m2Kind_ok iface _ k h.2⟩
        · trivial
      · trivial
    · trivial
  case mset m k v =>
    split
    · exact execOk_setSet rfl hi _ k (v := .int v) trivial
    · trivial
  case tset t k s =>
    split
    · rename_i p q hp hq
      refine execOk_setSet rfl hi p k ?_
      cases q with
      | none => simp only; split <;> trivial
      | some q' => exact findStrArg_ok hi hq
    · trivial
  case tget dst t k =>
    split
    · refine execOk_new ⟨Good.refl hi.wf, ?_⟩
      split
      · rename_i v hv
        have := lookup_ok (setMap_ok hi.wf _) hv
        cases hq : World.valStr v with
        | none => trivial
        | some q => exact valStr_lt this hq
      · trivial
    · trivial
  case keys dst m =>
    split
    · rename_i p b hp
      have h := allocArr_good hi.wf (Spec.sortInts ((st.w.setMap p).map (·.1)))
      exact execOk_new h
    · trivial
  case vals dst m =>
    split
    · rename_i p hp
      have h := allocArr_good hi.wf (Spec.sortInts ((st.w.setMap p).map (fun kv => valInt kv.2)))
      exact execOk_new h
    · trivial
  -- SimpleHTTP: only the instance's own cell is overwritten
  case hadd h ids =>
    split
    · rename_i p hp
      have f := httpAdd_frame ids hi.wf (findStr_lt hi hp)
      exact execOk_mut rfl f.wf f.grow
    · trivial
  case hrem h ids =>
    split
    · rename_i p hp
      have f := httpRemove_frame ids hi.wf (findStr_lt hi hp)
      exact execOk_mut rfl f.wf f.grow
    · trivial
  case hclear h =>
    split
    · rename_i p hp
      have f := httpClear_frame hi.wf p
      exact execOk_mut rfl f.wf f.grow
    · trivial
  case bad => trivial

theorem step_ok (iface : Bool) (hi : Inv st) (op : Op) :
    Inv (step iface st op).1 ∧ (op.isMutator iface = false → Le st.w (step iface st op).1.w) := by
  have h := exec_ok iface hi op
  unfold step
  cases hr : exec iface st op with
  | err e => exact ⟨hi, fun _ => Le.refl _⟩
  | ok w new out =>
    rw [hr] at h
    refine ⟨⟨h.1, fun e he => ?_⟩, h.2.2.2⟩
    rcases List.mem_append.mp he with he | he
    · exact Handle.ok_grow h.2.1 (hi.env e he)
    · exact h.2.2.1 e (by simpa using he)

end FpgoVerif.C04
