import FpgoVerif.Proofs.C06Walk
/-! Refinement: one step of the pointer-level model simulates one step of the ideal deque; histories. -/
namespace FpgoVerif.C06

def Abs (q : Q) (s : Ideal) : Prop := ∃ chain pool, Rep q s.items chain pool ∧ pool.length = s.spare

theorem rep_init (pick : Nat → Nat) : Rep (initWith pick) [] [] [] :=
  ⟨⟨.nil, .nil, .nil, List.nodup_nil, nofun, rfl, rfl, List.nodup_nil, nofun, nofun, nofun⟩, rfl⟩

theorem abs_init (pick : Nat → Nat) : Abs (initWith pick) ideal0 := ⟨[], [], rep_init pick, rfl⟩

theorem step_refines {q : Q} {s : Ideal} (h : Abs q s) (op : Op) :
    (step q op).2 = (specStep s op).2 ∧ Abs (step q op).1 (specStep s op).1 := by
  obtain ⟨items, spare⟩ := s
  obtain ⟨chain, pool, hr, rfl⟩ := h
  cases op with
  | offer v => exact ⟨rfl, offer_rep hr v⟩
  | unshift v => exact ⟨rfl, unshift_rep hr v⟩
  | shift =>
    cases items with
    | nil =>
      simp only [step, stepF, shift_empty hr, specStep, obsOfOut, true_and]
      exact ⟨chain, pool, hr, rfl⟩
    | cons a t =>
      obtain ⟨c', p', ho, hr'⟩ := shift_rep hr
      simp only [step, stepF, specStep, ho, obsOfOut, true_and]
      exact ⟨c', p', hr'⟩
  | pop =>
    rcases List.eq_nil_or_concat items with rfl | ⟨L, b, rfl⟩
    · simp only [step, stepF, pop_empty hr, specStep, obsOfOut, List.getLast?_nil, true_and]
      exact ⟨chain, pool, hr, rfl⟩
    · rw [List.concat_eq_append] at hr
      obtain ⟨c', p', ho, hr'⟩ := pop_rep hr
      simp only [step, stepF, specStep, ho, obsOfOut, List.concat_eq_append, List.getLast?_append,
        List.getLast?_singleton, Option.some_or, List.dropLast_concat, true_and]
      exact ⟨c', p', hr'⟩
  | peek =>
    cases items with
    | nil =>
      simp only [step, stepF, peek_empty hr, specStep, obsOfOut, true_and]
      exact ⟨chain, pool, hr, rfl⟩
    | cons a t =>
      simp only [step, stepF, peek_cons hr, specStep, obsOfOut, true_and]
      exact ⟨chain, pool, hr, rfl⟩
  | count =>
    refine ⟨?_, chain, pool, hr, rfl⟩
    simp only [step, stepF, specStep, count_rep hr]
  | clear =>
    obtain ⟨q', hc, hr'⟩ := clear_rep hr
    simp only [step, stepF, hc, specStep, true_and]
    exact ⟨[], chain, hr', hr.length_eq.symm⟩
  | keep n =>
    obtain ⟨q', p', hc, hr'⟩ := keep_rep hr.toRep0 n
    simp only [step, stepF, hc, specStep, true_and]
    exact ⟨chain, p', hr'⟩
  | clearPool =>
    obtain ⟨q', hc, hr'⟩ := clearNodePool_rep hr.toRep0
    simp only [step, stepF, hc, specStep, true_and]
    exact ⟨chain, [], hr', rfl⟩
  | poolInfo =>
    refine ⟨?_, chain, pool, hr, rfl⟩
    simp only [step, stepF, specStep, walkLen_spec _ hr.hpool hr.pool_len_lt, hr.hnode]
  | bad => exact ⟨rfl, chain, pool, hr, rfl⟩

theorem run_refines (ops : List Op) {q : Q} {s : Ideal} (h : Abs q s) : run q ops = specRun s ops := by
  induction ops generalizing q s with
  | nil => rfl
  | cons op ops ih =>
    obtain ⟨h1, h2⟩ := step_refines h op
    exact List.cons_eq_cons.2 ⟨h1, ih h2⟩

theorem stateAfter_abs (ops : List Op) {q : Q} {s : Ideal} (h : Abs q s) :
    Abs (stateAfter q ops) (ops.foldl (fun s op => (specStep s op).1) s) := by
  induction ops generalizing q s with
  | nil => exact h
  | cons op ops ih => exact ih (step_refines h op).2

theorem spec_total (ops : List Op) (s : Ideal) : ∀ o ∈ specRun s ops, o ≠ .panic ∧ o ≠ .hang := by
  induction ops generalizing s with
  | nil => nofun
  | cons op ops ih =>
    rintro o (_ | ⟨_, ho⟩)
    · -- no clause of `specStep` produces `.panic` or `.hang`
      cases op <;> simp [specStep] <;> split <;> simp
    · exact ih _ o ho

end FpgoVerif.C06
