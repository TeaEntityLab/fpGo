import FpgoVerif.Model.C20
/-! Combinator part of C20: `Compose` is a right fold and `Pipe` a left fold in Kleisli form; unfolding of the
    Trampoline iterates. -/

namespace FpgoVerif.C20

variable {α : Type}

/-- right fold in Kleisli form: innermost = last function -/
def foldrK (fs : List (Fn α)) (s : List α) : Res (List α) := fs.foldr (fun f acc => acc.bind f) (.ok s)
/-- left fold in Kleisli form: innermost = first function -/
def foldlK (fs : List (Fn α)) (s : List α) : Res (List α) := fs.foldl (fun acc f => acc.bind f) (.ok s)

theorem foldl_bind_from (fs : List (Fn α)) (r : Res (List α)) :
    fs.foldl (fun acc f => acc.bind f) r = r.bind (fun x => foldlK fs x) := by
  cases r with
  | ok v => rfl
  | panic =>
    induction fs with
    | nil => rfl
    | cons f rest ih => simpa using ih

theorem compose_eq_foldr (fs : List (Fn α)) (s : List α) (h : fs ≠ []) :
    compose fs s = foldrK fs s := by
  induction fs with
  | nil => exact absurd rfl h
  | cons f rest ih =>
    cases rest with
    | nil => simp [compose, foldrK]
    | cons g rest' =>
      simp only [compose, foldrK, List.foldr_cons]
      rw [ih (by simp)]
      rfl

theorem pipe_eq_foldl (fs : List (Fn α)) (s : List α) (h : fs ≠ []) :
    pipe fs s = foldlK fs s := by
  induction hn : fs.length generalizing fs with
  | zero => exact absurd (List.length_eq_zero_iff.mp hn) h
  | succ n ih =>
    obtain ⟨init, lastf, rfl⟩ : ∃ init l, fs = init ++ [l] :=
      ⟨fs.dropLast, fs.getLast h, (List.dropLast_concat_getLast h).symm⟩
    have hlen : init.length = n := by simp at hn; exact hn
    rw [pipe]
    split
    · rename_i h0; simp at h0
    · rename_i m hm
      have hmn : m = n := by simp at hm; omega
      subst hmn
      have hget : (init ++ [lastf])[m]'(by simp; omega) = lastf := by
        rw [List.getElem_append_right (by omega)]; simp [hlen]
      simp only [hget]
      by_cases h0 : m = 0
      · simp only [h0, if_true]
        have : init = [] := List.length_eq_zero_iff.mp (by omega)
        subst this; simp [foldlK]
      · simp only [h0, if_false]
        have htake : (init ++ [lastf]).take m = init := by
          rw [List.take_append_of_le_length (by omega), List.take_of_length_le (by omega)]
        rw [htake, ih init (by intro e; subst e; simp at hlen; omega) hlen]
        simp [foldlK, List.foldl_append]

theorem pipe_nil (s : List α) : pipe ([] : List (Fn α)) s = .panic := by
  rw [pipe]; split
  · rfl
  · rename_i h; simp at h

theorem foldrK_append (fs gs : List (Fn α)) (s : List α) :
    foldrK (fs ++ gs) s = (foldrK gs s).bind (fun x => foldrK fs x) := by
  induction fs with
  | nil => simp [foldrK]
  | cons f rest ih =>
    simp only [foldrK, List.cons_append, List.foldr_cons] at ih ⊢
    rw [ih, Res.bind_assoc]

theorem foldlK_append (fs gs : List (Fn α)) (s : List α) :
    foldlK (fs ++ gs) s = (foldlK fs s).bind (fun x => foldlK gs x) := by
  simp only [foldlK, List.foldl_append]
  exact foldl_bind_from gs _

theorem foldlK_reverse (fs : List (Fn α)) (s : List α) : foldlK fs.reverse s = foldrK fs s := by
  simp [foldlK, foldrK, List.foldl_reverse]

theorem compose_eq_spec : (compose : List (Fn α) → Fn α) = Spec.compose := by
  funext fs s
  cases fs with
  | nil => rfl
  | cons f rest => exact compose_eq_foldr _ _ (List.cons_ne_nil _ _)

theorem pipe_eq_spec : (pipe : List (Fn α) → Fn α) = Spec.pipe := by
  funext fs s
  cases fs with
  | nil => exact pipe_nil s
  | cons f rest => exact pipe_eq_foldl _ _ (List.cons_ne_nil _ _)

theorem iter_succ_head (fn : List α → StepOut α) (s : List α) (n : Nat) :
    Spec.iter fn s (n + 1) = Spec.iter fn (fn s).result n := by
  induction n with
  | zero => rfl
  | succ n ih => simp only [Spec.iter] at ih ⊢; rw [ih]

theorem stops_succ (fn : List α → StepOut α) (s : List α) (n : Nat) :
    Spec.stops fn s (n + 1) = Spec.stops fn (fn s).result n := by
  simp only [Spec.stops, iter_succ_head]

end FpgoVerif.C20
