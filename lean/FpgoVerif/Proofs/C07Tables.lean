import FpgoVerif.Gen.Skeletons
import FpgoVerif.Gen.BCQGuards
/-! C07: the protocol skeletons extracted from queue.go that the model mirrors, looked up in `Gen.skeletons`.
    `Props/C07.lean` states every lookup on its own, as a clause of one of the groups below; a group is one
    declaration so that the kernel evaluates each key of the table once for the whole group.  `lookup` also closes
    the lookups in `Gen.bcqGuards` of `Props/C07.lean`. -/
namespace FpgoVerif.C07

/-- lookup in a generated table: `find?` walks down the table, `String.reduceBEq` decides each key comparison on the
    literals, and the entry found is the expected literal itself, so no value is ever compared -/
scoped macro "lookup" : tactic =>
  `(tactic| simp only [Gen.skeletonOf, Gen.skeletons, Gen.bcqGuardsOf, Gen.bcqGuards, List.find?, String.reduceBEq,
      Option.map_some, and_self])

theorem bcq_call_skeletons :
    Gen.skeletonOf "BufferedChannelQueue.Offer" = some
      "call(lock.Lock) defer{call(lock.Unlock)} if[get(isClosed) call(isClosed.Get)]{return} get(pool) call(pool.Count) if[]{call(blockingQueue.Offer) if[]{return}else{if[]{}else{return}}} if[]{return} get(pool) call(pool.Offer) call(loadWorkerCh.Offer) return" ∧
    Gen.skeletonOf "BufferedChannelQueue.Put" = some "call(Offer) return" ∧
    Gen.skeletonOf "BufferedChannelQueue.Take" = some
      "if[get(isClosed) call(isClosed.Get)]{return} call(notifyWorkers) call(blockingQueue.Take) return" ∧
    Gen.skeletonOf "BufferedChannelQueue.TakeWithTimeout" = some
      "if[get(isClosed) call(isClosed.Get)]{return} call(notifyWorkers) call(blockingQueue.TakeWithTimeout) return" ∧
    Gen.skeletonOf "BufferedChannelQueue.Poll" = some
      "if[get(isClosed) call(isClosed.Get)]{return} call(notifyWorkers) call(blockingQueue.Poll) return" ∧
    Gen.skeletonOf "BufferedChannelQueue.GetChannel" = some "call(notifyWorkers) return" ∧
    Gen.skeletonOf "BufferedChannelQueue.Count" = some
      "if[get(isClosed) call(isClosed.Get)]{return} call(lock.RLock) defer{call(lock.RUnlock)} get(pool) call(pool.Count) return" := by lookup

theorem bcq_worker_skeletons :
    Gen.skeletonOf "BufferedChannelQueue.notifyWorkers" = some
      "call(lock.RLock) defer{call(lock.RUnlock)} if[get(isClosed) call(isClosed.Get)]{return} call(loadWorkerCh.Offer) call(freeNodeWorkerCh.Offer)" ∧
    Gen.skeletonOf "BufferedChannelQueue.loadFromPool" = some
      "rangech(loadWorkerCh){if[get(isClosed) call(isClosed.Get)]{break} call(lock.Lock) if[get(isClosed) call(isClosed.Get)]{call(lock.Unlock) break} for[get(pool) call(pool.Count)]{get(pool) call(pool.Poll) if[]{break} call(blockingQueue.Offer) if[]{get(pool) call(pool.Unshift) break}} call(lock.Unlock) call(Sleep)}" ∧
    Gen.skeletonOf "BufferedChannelQueue.freeNodePool" = some
      "rangech(freeNodeWorkerCh){call(Sleep) if[get(isClosed) call(isClosed.Get)]{break} call(lock.Lock) if[get(pool)]{get(pool) call(pool.KeepNodePoolCount)} call(lock.Unlock)}" ∧
    Gen.skeletonOf "BufferedChannelQueue.Close" = some
      "call(lock.Lock) defer{call(lock.Unlock)} get(isClosed) call(isClosed.Set) call(close) call(close)" ∧
    Gen.skeletonOf "NewBufferedChannelQueue" = some
      "call(NewLinkedListQueue) set(pool) call(NewChannelQueue) call(NewChannelQueue) call(NewChannelQueue) go{call(freeNodePool)} go{call(loadFromPool)} return" := by lookup

theorem chq_skeletons :
    Gen.skeletonOf "ChannelQueue.Put" = some "send(q) return" ∧
    Gen.skeletonOf "ChannelQueue.PutWithTimeout" = some
      "select{send(q)=>{return} | call(After) recv(After())=>{return}}" ∧
    Gen.skeletonOf "ChannelQueue.Take" = some "recv(q) if[]{return} return" ∧
    Gen.skeletonOf "ChannelQueue.TakeWithTimeout" = some
      "select{recv(q)=>{if[]{return} return} | call(After) recv(After())=>{return}}" ∧
    Gen.skeletonOf "ChannelQueue.Offer" = some "select{send(q)=>{return} | default=>{return}}" ∧
    Gen.skeletonOf "ChannelQueue.Poll" = some
      "select{recv(q)=>{if[]{return} return} | default=>{return}}" := by lookup

end FpgoVerif.C07
