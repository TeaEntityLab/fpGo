import FpgoVerif.Proofs.C19Sort
/-! The judge's executable checks (`acceptsB`) accept exactly the model's answer. -/
namespace FpgoVerif.C19

variable {β : Type}

theorem pairwiseB_iff (r : β → β → Bool) : ∀ l : List β,
    pairwiseB r l = true ↔ l.Pairwise (fun a b => r a b = true)
  | [] => by simp [pairwiseB]
  | a :: t => by simp [pairwiseB, pairwiseB_iff r t, List.pairwise_cons]

theorem allSome_eq_some : ∀ (l : List (Option β)) (out : List β), allSome l = some out ↔ l = out.map some
  | [], out => by cases out <;> simp [allSome]
  | none :: t, out => by cases out <;> simp [allSome]
  | some x :: t, out => by
    cases out with
    | nil => simp [allSome]
    | cons y out' =>
      simp only [allSome, Option.map_eq_some_iff, List.map_cons, List.cons.injEq, Option.some.injEq]
      constructor
      · rintro ⟨o, ho, h1, h2⟩
        exact ⟨h1, by subst h2; exact (allSome_eq_some t o).mp ho⟩
      · rintro ⟨h1, h2⟩
        exact ⟨out', (allSome_eq_some t out').mpr h2, h1, rfl⟩

def tagAt (recs : List β) (i : Nat) : Option (Nat × β) := (recs[i]?).map (fun r => (i, r))

theorem lookupAll_eq (recs : List β) (ids : List Nat) : lookupAll recs ids = allSome (ids.map (tagAt recs)) := rfl

theorem tag_length (recs : List β) : (tag recs).length = recs.length := by simp [tag]

theorem tag_map_some (recs : List β) : (tag recs).map some = (List.range recs.length).map (tagAt recs) := by
  apply List.ext_getElem
  · simp [tag_length]
  · intro i h1 h2
    have hi : i < recs.length := by simpa [tag_length] using h1
    simp [tagAt, tag, hi]

theorem tag_eq_filterMap (recs : List β) :
    tag recs = (List.range recs.length).filterMap (tagAt recs) := by
  have h := congrArg (List.filterMap id) (tag_map_some recs)
  simpa [List.filterMap_map, Function.comp_def] using h

theorem tag_map_fst (recs : List β) : (tag recs).map (·.1) = List.range recs.length := by
  simp [tag, Function.comp_def, List.zipIdx_map_snd, List.range_eq_range']

theorem tag_pairwise (recs : List β) : (tag recs).Pairwise (fun a b => a.1 < b.1) := by
  have := List.pairwise_lt_range (n := recs.length)
  rw [← tag_map_fst recs, List.pairwise_map] at this
  exact this

theorem tagAt_some {recs : List β} {i : Nat} {p : Nat × β} (h : tagAt recs i = some p) :
    p.1 = i ∧ i < recs.length := by
  obtain ⟨r, hr, rfl⟩ := Option.map_eq_some_iff.1 h
  exact ⟨rfl, (List.getElem?_eq_some_iff.1 hr).1⟩

theorem mem_tag {recs : List β} {p : Nat × β} (hp : p ∈ tag recs) : tagAt recs p.1 = some p := by
  rw [tag_eq_filterMap, List.mem_filterMap] at hp
  obtain ⟨i, _, hi⟩ := hp
  rw [(tagAt_some hi).1, hi]

theorem lookupAll_some {recs : List β} {ids : List Nat} {out : List (Nat × β)}
    (h : lookupAll recs ids = some out) :
    out.map (·.1) = ids ∧ (∀ i ∈ ids, i < recs.length) ∧ out = ids.filterMap (tagAt recs) := by
  rw [lookupAll_eq, allSome_eq_some] at h
  refine ⟨?_, ?_, ?_⟩
  · induction ids generalizing out with
    | nil => cases out <;> simp at h ⊢
    | cons i t ih =>
      cases out with
      | nil => simp at h
      | cons p out' =>
        simp only [List.map_cons, List.cons.injEq] at h ⊢
        exact ⟨(tagAt_some h.1).1, ih h.2⟩
  · intro i hi
    have : tagAt recs i ∈ ids.map (tagAt recs) := List.mem_map_of_mem hi
    rw [h] at this
    obtain ⟨p, _, hp⟩ := List.mem_map.mp this
    exact (tagAt_some hp.symm).2
  · have := congrArg (List.filterMap id) h
    simpa [List.filterMap_map, Function.comp_def] using this.symm

theorem lookupAll_of_mem_tag (recs : List β) (out : List (Nat × β)) (h : ∀ p ∈ out, p ∈ tag recs) :
    lookupAll recs (out.map (·.1)) = some out := by
  rw [lookupAll_eq, allSome_eq_some, List.map_map]
  exact List.map_congr_left fun p hp => mem_tag (h p hp)

theorem count_fst (out : List (Nat × β)) (i : Nat) :
    (out.filter (fun p => p.1 == i)).length = List.count i (out.map (·.1)) := by
  rw [List.count_eq_countP, List.countP_map, List.countP_eq_length_filter]
  rfl

theorem perm_tag_of_isPermB {recs : List β} {ids : List Nat} {out : List (Nat × β)}
    (h : lookupAll recs ids = some out) (hp : isPermB recs.length out = true) : out.Perm (tag recs) := by
  obtain ⟨h1, h2, h3⟩ := lookupAll_some h
  have hids : ids.Perm (List.range recs.length) := by
    rw [List.perm_iff_count]
    intro a
    rw [List.count_range]
    by_cases ha : a < recs.length
    · simp only [isPermB, Bool.and_eq_true, List.all_eq_true, List.mem_range, beq_iff_eq] at hp
      rw [← h1, ← count_fst, hp.2 a ha]; simp [ha]
    · simp only [ha, if_false]
      exact List.count_eq_zero.mpr (fun hm => ha (h2 a hm))
  rw [h3, tag_eq_filterMap]
  exact hids.filterMap _

theorem isPermB_of_perm_tag {recs : List β} {out : List (Nat × β)} (h : out.Perm (tag recs)) :
    isPermB recs.length out = true := by
  simp only [isPermB, Bool.and_eq_true, List.all_eq_true, List.mem_range, beq_iff_eq]
  refine ⟨by rw [h.length_eq, tag_length], ?_⟩
  intro i hi
  rw [(h.filter _).length_eq, count_fst, tag_map_fst, List.count_range]
  simp [hi]

theorem orderedB_iff (less : β → β → Bool) (out : List (Nat × β)) :
    orderedB less out = true ↔ out.Pairwise (fun a b => liftLess less b a = false) := by
  rw [orderedB, pairwiseB_iff]
  exact List.Pairwise.iff (by simp [liftLess])

theorem stableB_iff (less : β → β → Bool) (out : List (Nat × β)) :
    stableB less out = true ↔ out.Pairwise (fun a b => equivBy (liftLess less) a b = true → a.1 < b.1) := by
  rw [stableB, pairwiseB_iff]
  refine List.Pairwise.iff fun a b => ?_
  show _ ↔ (equivBy less a.2 b.2 = true → _)
  cases equivBy less a.2 b.2 <;> simp

theorem acceptsB_iff {less : β → β → Bool} (h : StrictWeak less) (recs : List β) (ids : List Nat) :
    acceptsB less recs ids = true ↔ ids = modelIds less recs := by
  have hL : StrictWeak (liftLess less) := h.comap Prod.snd
  constructor
  · intro ha
    unfold acceptsB at ha
    cases hlk : lookupAll recs ids with
    | none => simp [hlk] at ha
    | some out =>
      simp only [hlk, Bool.and_eq_true, orderedB_iff, stableB_iff] at ha
      obtain ⟨⟨hp, hord⟩, hst⟩ := ha
      have hperm := perm_tag_of_isPermB hlk hp
      have hfil := filter_equiv_of_stable_idx hL (·.1) (tag recs) out (tag_pairwise recs) hperm hst
      have := stable_sorted_unique hL out (sortBy (liftLess less) (tag recs))
        (hperm.trans (sortBy_perm _ _).symm) hord (sortBy_pairwise hL _)
        (fun x => (hfil x).trans (sortBy_filter_equiv hL _ x).symm)
      rw [modelIds, sort, ← this, (lookupAll_some hlk).1]
  · rintro rfl
    unfold acceptsB modelIds sort
    rw [lookupAll_of_mem_tag recs _ fun p hp => (sortBy_perm _ _).subset hp]
    simp only [Bool.and_eq_true, orderedB_iff, stableB_iff]
    exact ⟨⟨isPermB_of_perm_tag (sortBy_perm _ _), sortBy_pairwise hL (tag recs)⟩,
      sortBy_stable_idx hL (·.1) (tag recs) (tag_pairwise recs)⟩

theorem verdict_allowed_iff (less : β → β → Bool) (recs : List β) (ids : List Nat) :
    verdict less recs ids = "allowed ordered stable permutation" ↔ acceptsB less recs ids = true := by
  unfold verdict acceptsB
  cases lookupAll recs ids with
  | none => simp
  | some out =>
    cases h1 : isPermB recs.length out <;> cases h2 : orderedB less out <;> cases h3 : stableB less out <;>
      simp [h1, h2, h3]

end FpgoVerif.C19
