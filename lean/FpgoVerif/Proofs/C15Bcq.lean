import FpgoVerif.Model.C15Bcq
import FpgoVerif.Proofs.C15Tac
/-! BufferedChannelQueue system (users + closing goroutine + loader), code after c8ecf0a: the invariant, its
    preservation by every atom, reachability, progress. -/
namespace FpgoVerif.C15.Bq

theorem gstep_some {s pc ch s' nx} (h : gstep s pc ch = some (s', nx)) :
    0 < s.cnt (kind pc) ∧ ∃ s1, step s pc ch = some (s1, nx) ∧ s' = { s1 with cnt := move s1.cnt (kind pc) nx } := by
  unfold gstep at h
  split at h
  · cases h
  · rename_i hc
    split at h <;> cases h
    rename_i hs
    exact ⟨Nat.pos_of_ne_zero hc, _, hs, rfl⟩

structure Inv (s : St) : Prop where
  fn : s.fixNotify = true
  fl : s.fixLoader = true
  nopanic : s.panic = false
  w1 : s.cnt .o1 + s.cnt .c1 + s.cnt .c2 + s.cnt .l3 + s.cnt .l4 ≤ 1
  wr : 0 < s.cnt .o1 + s.cnt .c1 + s.cnt .c2 + s.cnt .l3 + s.cnt .l4 → s.cnt .n2 = 0
  oneC : s.cnt .c0 + s.cnt .c1 + s.cnt .c2 ≤ 1
  startedC : s.closeStarted = false → s.cnt .c0 + s.cnt .c1 + s.cnt .c2 = 0
  startedFlag : s.flag = true → s.closeStarted = true
  n2flag : 0 < s.cnt .n2 → s.flag = false
  lflag : 0 < s.cnt .l3 + s.cnt .l4 → s.flag = false
  cflag : 0 < s.cnt .c1 + s.cnt .c2 → s.flag = true
  loadFlag : s.loadClosed = true → s.flag = true ∧ s.cnt .c0 + s.cnt .c1 = 0
  chanFlag : s.chanClosed = true → s.loadClosed = true ∧ s.cnt .c0 + s.cnt .c1 + s.cnt .c2 = 0
  c2load : 0 < s.cnt .c2 → s.loadClosed = true
  doneAll : s.closeDone = true → s.chanClosed = true
  doneFlag : s.closeDone = true → s.flag = true
  late0 : s.late = 0
  startedDone : s.closeStarted = true → s.cnt .c0 + s.cnt .c1 + s.cnt .c2 = 0 → s.closeDone = true

theorem inv_init (c b : Nat) : Inv (init c b true true) := by
  constructor <;> simp [init]

/-- a call that reads the flag clear does so before `Close` has returned: it is not a late one -/
theorem Inv.notLate {s} (hi : Inv s) (hf : ¬s.flag = true) : lateIf s = 0 := by
  simp only [lateIf, Bool.eq_false_iff.2 (mt hi.doneFlag hf)]
  exact hi.late0

/-- what the guard of `o0`, `c0`, `l2` (`Lock`) says about the counters -/
theorem Inv.unlocked {s} (hi : Inv s) (hg : ¬(writers s ≠ 0 ∨ readers s ≠ 0)) :
    s.cnt .o1 + s.cnt .c1 + s.cnt .c2 + s.cnt .l3 + s.cnt .l4 = 0 ∧ s.cnt .n2 = 0 := by
  simpa only [writers, readers, hi.fn, if_true, ne_eq, not_or, Classical.not_not] using hg

theorem inv_spawn {s s' pc} (h : spawn s pc = some s') (hi : Inv s) : Inv s' := by
  cases pc
  -- no clause counts the kinds at which the calls other than Close begin
  case t0 k | n1 k => cases k <;> cases h <;> exact { hi with }
  case o0 | k0 | ic => cases h; exact { hi with }
  case c0 =>
    simp only [spawn, inc] at h
    split at h <;> cases h
    rename_i hcs
    have h0 := hi.startedC (Bool.eq_false_iff.2 hcs)
    -- no Close has begun: the flag is clear, so nothing is closed
    have hl : ¬s.loadClosed = true := fun h => hcs (hi.startedFlag (hi.loadFlag h).1)
    exact { hi with
      oneC := by cnt_eval; omega
      startedC := fun h => by cases h
      startedFlag := fun _ => rfl
      loadFlag := fun h => absurd h hl
      chanFlag := fun h => absurd (hi.chanFlag h).1 hl
      startedDone := fun _ h => by cnt_eval at h; omega }
  all_goals cases h

theorem inv_step {s s' nx pc ch} (h : gstep s pc ch = some (s', nx)) (hi : Inv s) : Inv s' := by
  obtain ⟨hc, s1, hs, rfl⟩ := gstep_some h
  clear h
  cases pc
  case rcv k =>
    -- receivers hold no lock and no clause counts them
    have leave : ∀ buf r, Inv { s with buf := buf, cnt := move s.cnt (kind (.rcv k)) (.fin r) } := fun _ _ => by
      cases k <;> exact { hi with }
    simp only [step] at hs
    repeat' split at hs
    all_goals cases hs <;> exact leave _ _
  all_goals simp only [kind] at hc ⊢
  case t0 k | k0 =>
    simp only [step] at hs
    split at hs <;> cases hs
    · exact { hi with }
    · rename_i hf
      exact { hi with late0 := hi.notLate hf }
  case n1 k =>
    simp only [step] at hs
    rw [if_pos hi.fn] at hs
    split at hs
    · cases hs
    · rename_i hw
      simp only [writers, ne_eq, Classical.not_not] at hw
      split at hs
      · cases k <;> cases hs <;> exact { hi with }
      · rename_i hf
        cases hs
        exact { hi with
          wr := fun h => by cnt_eval at h; omega
          n2flag := fun _ => Bool.eq_false_iff.2 hf
          late0 := hi.notLate hf }
  case n2 k =>
    simp only [step] at hs
    split at hs
    · -- loadWorkerCh is closed after the flag is set, under the write lock; this goroutine read it clear under
      -- the read lock it still holds
      rename_i hl
      exact absurd (hi.loadFlag hl).1 (Bool.eq_false_iff.1 (hi.n2flag hc))
    · cases k <;> cases hs <;> exact { hi with
        wr := fun h => by have := hi.wr h; omega
        n2flag := fun _ => hi.n2flag hc }
  case o0 v =>
    simp only [step] at hs
    split at hs
    · cases hs
    · rename_i hg
      cases hs
      obtain ⟨hw, hr⟩ := hi.unlocked hg
      exact { hi with
        w1 := by cnt_eval; omega
        wr := fun _ => hr }
  case o1 v =>
    have leave : ∀ late buf pool tok r, late = 0 →
        Inv { s with late := late, buf := buf, pool := pool, tok := tok, cnt := move s.cnt .o1 (.fin r) } :=
      fun _ _ _ _ _ h0 => { hi with
        w1 := by have := hi.w1; cnt_eval; omega
        wr := fun h => hi.wr (by cnt_eval at h; omega)
        late0 := h0 }
    simp only [step] at hs
    by_cases hf : s.flag = true
    · rw [if_pos hf] at hs
      cases hs
      exact leave _ _ _ _ _ hi.late0
    · -- a send on a closed channel: both channels are closed after the flag is set, and this Offer read the flag
      -- clear under the lock it still holds
      have hl : ¬s.loadClosed = true := fun h => hf (hi.loadFlag h).1
      have hcc : ¬(s.pool.isEmpty && s.chanClosed) = true :=
        fun h => hl (hi.chanFlag (Bool.and_eq_true_iff.1 h).2).1
      rw [if_neg hf, if_neg hcc, if_neg hl] at hs
      repeat' split at hs
      all_goals cases hs <;> exact leave _ _ _ _ _ (hi.notLate hf)
  case c0 =>
    simp only [step] at hs
    split at hs
    · cases hs
    · rename_i hg
      cases hs
      obtain ⟨hw, hr⟩ := hi.unlocked hg
      have h1 := hi.oneC
      have hcs : s.closeStarted = true := Bool.of_not_eq_false fun h => by have := hi.startedC h; omega
      -- the Close that has not yet set the flag has closed nothing
      have hl : ¬s.loadClosed = true := fun h => by have := (hi.loadFlag h).2; omega
      exact { hi with
        w1 := by cnt_eval; omega
        wr := fun _ => hr
        oneC := by cnt_eval; omega
        startedC := fun h => absurd hcs (Bool.eq_false_iff.1 h)
        startedFlag := fun _ => hcs
        n2flag := fun h => by cnt_eval at h; omega
        lflag := fun h => by cnt_eval at h; omega
        cflag := fun _ => rfl
        loadFlag := fun h => absurd h hl
        chanFlag := fun h => absurd (hi.chanFlag h).1 hl
        doneFlag := fun _ => rfl
        startedDone := fun _ h => by cnt_eval at h; omega }
  case c1 =>
    have h1 := hi.oneC
    have hf : s.flag = true := hi.cflag (by omega)
    simp only [step] at hs
    split at hs <;> cases hs
    · -- loadWorkerCh is closed only by a Close past c1, and there is one Close
      rename_i hl
      have := (hi.loadFlag hl).2; omega
    · exact { hi with
        w1 := by have := hi.w1; cnt_eval; omega
        wr := fun _ => hi.wr (by omega)
        oneC := by cnt_eval; omega
        startedC := fun h => by have := hi.startedC h; omega
        cflag := fun _ => hf
        loadFlag := fun _ => ⟨hf, by cnt_eval; omega⟩
        chanFlag := fun h => by have := (hi.chanFlag h).2; omega
        c2load := fun _ => rfl
        startedDone := fun _ h => by cnt_eval at h }
  case c2 =>
    have h1 := hi.oneC
    have hf : s.flag = true := hi.cflag (by omega)
    simp only [step] at hs
    split at hs <;> cases hs
    · -- blockingQueue is closed only by a Close past c2
      rename_i hcc
      have := (hi.chanFlag hcc).2; omega
    · exact { hi with
        w1 := by have := hi.w1; cnt_eval; omega
        wr := fun h => hi.wr (by cnt_eval at h; omega)
        oneC := by cnt_eval; omega
        startedC := fun h => by have := hi.startedC h; omega
        cflag := fun _ => hf
        chanFlag := fun _ => ⟨hi.c2load hc, by cnt_eval; omega⟩
        c2load := fun _ => hi.c2load hc
        doneAll := fun _ => rfl
        doneFlag := fun _ => hf
        startedDone := fun _ _ => rfl }
  -- atoms that write nothing the invariant reads, between kinds no clause counts
  case k1 | ic | l0 | l1 | l5 =>
    simp only [step] at hs
    repeat' split at hs
    all_goals cases hs <;> exact { hi with }
  case l2 =>
    simp only [step] at hs
    split at hs
    · cases hs
    · rename_i hg
      obtain ⟨hw, hr⟩ := hi.unlocked hg
      split at hs <;> cases hs
      · exact { hi with }
      · rename_i hf
        simp only [hi.fl, Bool.true_and] at hf
        exact { hi with
          w1 := by cnt_eval; omega
          wr := fun _ => hr
          lflag := fun _ => Bool.eq_false_iff.2 hf }
  case l3 =>
    have hf := hi.lflag (by omega)
    simp only [step] at hs
    split at hs <;> cases hs
    all_goals exact { hi with
      w1 := by have := hi.w1; cnt_eval; omega
      wr := fun h => hi.wr (by cnt_eval at h; omega)
      lflag := fun _ => hf }
  case l4 x =>
    have hf := hi.lflag (by omega)
    simp only [step] at hs
    repeat' split at hs
    all_goals cases hs
    · -- blockingQueue is closed after the flag is set, under the lock; the loader read the flag clear under the
      -- lock it still holds
      rename_i hcc
      exact absurd (hi.loadFlag (hi.chanFlag hcc).1).1 (Bool.eq_false_iff.1 hf)
    all_goals exact { hi with
      w1 := by have := hi.w1; cnt_eval; omega
      wr := fun h => hi.wr (by cnt_eval at h; omega)
      lflag := fun _ => hf }

theorem inv_reach {c b s} (h : Reach c b true true s) : Inv s := by
  induction h with
  | init => exact inv_init c b
  | spawn pc _ hs ih => exact inv_spawn hs ih
  | step pc ch _ hs ih => exact inv_step hs ih

theorem gstep_of_isSome {s pc} (ch : Bool) (hc : 0 < s.cnt (kind pc)) (hs : (step s pc ch).isSome = true) :
    ∃ s' nx, gstep s pc ch = some (s', nx) := by
  unfold gstep
  rw [if_neg (Nat.ne_of_gt hc)]
  cases h : step s pc ch with
  | none => rw [h] at hs; cases hs
  | some p => exact ⟨_, _, rfl⟩

/-- discards the program counters of another kind; leaves the ones of kind `k` (all their parameters) -/
macro "c15kind" pc:ident hk:ident : tactic =>
  `(tactic| (rcases $pc:ident with (_|_|_|_) | (_|_|_|_) | (_|_|_|_) | (_|_|_|_) | v | v | _ | _ | _ | _ | _ | _ | _ | _ | _ | _ | x | _
             all_goals (try (simp [kind] at $hk:ident; done))))

/-- the guard under which a goroutine at kind `k` can move, whatever its parameters and with no timeout firing
    (fixed code): the lock is free, blockingQueue holds a value or is closed, loadWorkerCh holds a token or is
    closed; the other atoms never block -/
def ready (s : St) : Kind → Prop
  | .n1 | .k1 => writers s = 0
  | .o0 | .c0 | .l2 => writers s = 0 ∧ readers s = 0
  | .rcv => s.buf ≠ [] ∨ s.chanClosed = true
  | .l0 => 0 < s.tok ∨ s.loadClosed = true
  | _ => True

theorem step_of_ready {s pc} (hfn : s.fixNotify = true) (h : ready s (kind pc)) : (step s pc false).isSome = true := by
  cases pc
  case n1 | k1 =>
    simp only [kind, ready] at h
    simp only [step, hfn, h, ne_eq, not_true_eq_false, if_true, if_false, apply_ite Option.isSome,
      Option.isSome_some, ite_self]
  case o0 | c0 | l2 =>
    simp only [kind, ready] at h
    simp only [step, h.1, h.2, ne_eq, not_true_eq_false, or_self, if_false, apply_ite Option.isSome,
      Option.isSome_some, ite_self]
  case rcv k =>
    simp only [step]
    split
    · rfl
    · rename_i hb
      cases k
      case poll => split <;> rfl
      all_goals
        simp only [kind, ready, hb, ne_eq, not_true_eq_false, false_or] at h
        rw [if_pos h]; rfl
  case l0 =>
    simp only [kind, ready] at h
    simp only [step]
    split
    · rfl
    · rename_i ht
      rw [if_pos (h.resolve_left ht)]; rfl
  case l3 =>
    simp only [step]
    split <;> rfl
  -- the other atoms never block: every branch of `step` is a `some`
  all_goals simp only [step, apply_ite Option.isSome, Option.isSome_some, ite_self]

theorem progress_at {s k} (hi : Inv s) (hc : 0 < s.cnt k) (h : ready s k) :
    ∃ k, 0 < s.cnt k ∧ ∀ pc, kind pc = k → ∃ s' nx, gstep s pc false = some (s', nx) :=
  ⟨k, hc, fun _ hk => gstep_of_isSome false (hk ▸ hc) (step_of_ready hi.fn (hk ▸ h))⟩

/-- Progress is stated per program-counter *kind*: the counters do not record which operation (Take /
    TakeWithTimeout / GetChannel …) or value a goroutine carries, so the enabled atom is enabled for every
    parameter a goroutine at that kind may have — and without any timeout firing. -/
theorem progressK {s} (hi : Inv s) (hcs : s.closeStarted = true) (hb : ∃ k, 0 < s.cnt k) :
    ∃ k, 0 < s.cnt k ∧ ∀ pc, kind pc = k → ∃ s' nx, gstep s pc false = some (s', nx) := by
  -- lock holders first: they never block
  by_cases ho1 : 0 < s.cnt .o1
  · exact progress_at hi ho1 trivial
  by_cases hc1 : 0 < s.cnt .c1
  · exact progress_at hi hc1 trivial
  by_cases hc2 : 0 < s.cnt .c2
  · exact progress_at hi hc2 trivial
  by_cases hl3 : 0 < s.cnt .l3
  · exact progress_at hi hl3 trivial
  by_cases hl4 : 0 < s.cnt .l4
  · exact progress_at hi hl4 trivial
  have hw : writers s = 0 := by simp only [writers]; omega
  by_cases hn2 : 0 < s.cnt .n2
  · exact progress_at hi hn2 trivial
  have hr : readers s = 0 := by simp only [readers, hi.fn, if_true]; omega
  -- the lock is free: everything but a blocking receive and the loader's `range` can move
  by_cases ht0 : 0 < s.cnt .t0
  · exact progress_at hi ht0 trivial
  by_cases hn1 : 0 < s.cnt .n1
  · exact progress_at hi hn1 hw
  by_cases ho0 : 0 < s.cnt .o0
  · exact progress_at hi ho0 ⟨hw, hr⟩
  by_cases hk0 : 0 < s.cnt .k0
  · exact progress_at hi hk0 trivial
  by_cases hk1 : 0 < s.cnt .k1
  · exact progress_at hi hk1 hw
  by_cases hic : 0 < s.cnt .ic
  · exact progress_at hi hic trivial
  by_cases hc0 : 0 < s.cnt .c0
  · exact progress_at hi hc0 ⟨hw, hr⟩
  by_cases hl1 : 0 < s.cnt .l1
  · exact progress_at hi hl1 trivial
  by_cases hl2 : 0 < s.cnt .l2
  · exact progress_at hi hl2 ⟨hw, hr⟩
  by_cases hl5 : 0 < s.cnt .l5
  · exact progress_at hi hl5 trivial
  by_cases hrp : 0 < s.cnt .rcvp
  · exact progress_at hi hrp trivial
  -- only blocking receivers and the loader's `range` are left: Close has completed, both channels are closed
  have hch := hi.doneAll (hi.startedDone hcs (by omega))
  by_cases hrc : 0 < s.cnt .rcv
  · exact progress_at hi hrc (.inr hch)
  have hl0 : 0 < s.cnt .l0 := by
    obtain ⟨k, hk⟩ := hb
    cases k <;> first | exact hk | exact absurd hk ‹_›
  exact progress_at hi hl0 (.inr (hi.chanFlag hch).1)

theorem kind_surj : ∀ k, ∃ pc, kind pc = k
  | .t0 => ⟨.t0 .take, rfl⟩ | .n1 => ⟨.n1 .take, rfl⟩ | .n2 => ⟨.n2 .take, rfl⟩
  | .rcv => ⟨.rcv .take, rfl⟩ | .rcvp => ⟨.rcv .poll, rfl⟩
  | .o0 => ⟨.o0 0, rfl⟩ | .o1 => ⟨.o1 0, rfl⟩ | .k0 => ⟨.k0, rfl⟩ | .k1 => ⟨.k1, rfl⟩ | .ic => ⟨.ic, rfl⟩
  | .c0 => ⟨.c0, rfl⟩ | .c1 => ⟨.c1, rfl⟩ | .c2 => ⟨.c2, rfl⟩
  | .l0 => ⟨.l0, rfl⟩ | .l1 => ⟨.l1, rfl⟩ | .l2 => ⟨.l2, rfl⟩ | .l3 => ⟨.l3, rfl⟩ | .l4 => ⟨.l4 0, rfl⟩ | .l5 => ⟨.l5, rfl⟩

/-- once Close has begun, whatever goroutine is still inside the queue (users, the closer, the loader) can step -/
theorem progress {s} (hi : Inv s) (hcs : s.closeStarted = true) (hb : ∃ k, 0 < s.cnt k) :
    ∃ pc ch s' nx, gstep s pc ch = some (s', nx) := by
  obtain ⟨k, _, h⟩ := progressK hi hcs hb
  obtain ⟨pc, hk⟩ := kind_surj k
  exact ⟨pc, false, h pc hk⟩

end FpgoVerif.C15.Bq
