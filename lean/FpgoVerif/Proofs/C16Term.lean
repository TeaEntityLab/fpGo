import FpgoVerif.Proofs.C16Inv
/-! Consequences of the invariant in terminal states, and the canonical form of an unordered result: two
    permutations of each other have the same sorted form, and sorting commutes with a monotone function — so
    "a permutation of Map(f, list)" is decided by comparing sorted outputs. -/
namespace FpgoVerif.C16

variable {α β : Type} {l : List α} {f : α → β} {w cap : Nat} {s : St α β}

theorem workerCount_pos (pool : Option Int) {l : List α} (hl : l ≠ []) : 0 < workerCount pool l.length := by
  have := List.length_pos_iff.mpr hl
  unfold workerCount
  split
  · exact this
  · split <;> omega

theorem filterMap_none_of_done {γ : Type} (g : WS α β → Option γ) (hg : g .done = none) (ws : List (WS α β))
    (h : ∀ x ∈ ws, x.isDone = true) : ws.filterMap g = [] :=
  List.filterMap_eq_nil_iff.mpr fun x hx => by
    cases x with
    | done => exact hg
    | _ => exact nomatch h _ hx

theorem countP_zero_of_done (p : WS α β → Bool) (hp : p .done = false) (ws : List (WS α β))
    (h : ∀ x ∈ ws, x.isDone = true) : ws.countP p = 0 :=
  List.countP_eq_zero.mpr fun x hx => by
    cases x with
    | done => exact Bool.eq_false_iff.mp hp
    | _ => exact nomatch h _ hx

structure Terminal (l : List α) (s : St α β) : Prop where
  allDone : ∀ x ∈ s.workers, x.isDone = true
  jobsEmpty : s.chJobs = []
  resEmpty : s.chResult = []
  fedAll : s.fed = l.length
  colLen : s.collected.length = l.length
  keys : (s.collected.map (·.1)).Perm (List.range l.length)
  appsOnce : s.apps.Perm (List.range l.length)

theorem terminal_of_done (h : Inv l f w cap s) (hw : l ≠ [] → 0 < w) (hd : s.collectorDone = true) : Terminal l s := by
  obtain ⟨hrc, hre⟩ := h.colDone hd
  have hall := h.resClosed hrc
  have hc0 := countP_zero_of_done WS.isComputing rfl s.workers hall
  have hs0 := countP_zero_of_done WS.isSending rfl s.workers hall
  have hcf := filterMap_none_of_done WS.compIdx rfl s.workers hall
  have hsf := filterMap_none_of_done WS.sendIdx rfl s.workers hall
  have htot := h.total
  rw [hre, hc0, hs0] at htot
  have hjobs : s.chJobs = [] ∧ s.fed = l.length := by
    cases hws : s.workers with
    | nil =>
      -- no worker at all: the list is empty, nothing was ever fed
      have hw0 : w = 0 := by rw [← h.wlen, hws]; rfl
      have hl : l = [] := Classical.byContradiction fun hl => Nat.lt_irrefl 0 (hw0 ▸ hw hl)
      have hfed : s.fed = 0 := Nat.le_zero.mp (by have := h.fed_le; rwa [hl] at this)
      exact ⟨List.eq_nil_of_length_eq_zero (by omega), by rw [hfed, hl]; rfl⟩
    | cons x xs =>
      have := h.doneJobs ⟨x, hws ▸ List.mem_cons_self, hall x (hws ▸ List.mem_cons_self)⟩
      exact ⟨this.2, h.closed_fed this.1⟩
  have hkeys : (s.collected.map (·.1)).Perm (List.range l.length) := by
    rw [List.perm_iff_count]; intro j
    have hocc : occ s j = (s.collected.map (·.1)).count j := by
      simp only [occ, hjobs.1, hre, hcf, hsf, List.map_nil, List.count_nil, Nat.zero_add]
    rw [List.count_range, ← hocc, ← hjobs.2]
    split
    · exact h.cons_lt j ‹_›
    · exact h.cons_ge j (Nat.le_of_not_lt ‹_›)
  refine ⟨hall, hjobs.1, hre, hjobs.2, ?_, hkeys, ?_⟩
  · rw [hjobs.1] at htot; rw [← hjobs.2, ← htot]; simp only [List.length_nil, Nat.zero_add, Nat.add_zero]
  · refine (List.perm_iff_count.mpr fun j => ?_).trans hkeys
    rw [h.apps j]; simp only [produced, hre, hsf, List.map_nil, List.count_nil, Nat.zero_add]

theorem mapGet_eq {i : Nat} {r : β} : ∀ (xs : List (Nat × β)), (∀ e ∈ xs, e.1 = i → e.2 = r) →
    mapGet i xs = if xs.any (·.1 == i) then some r else none
  | [], _ => rfl
  | (k, v) :: xs, hall => by
    rw [mapGet, mapGet_eq xs fun e he => hall e (List.mem_cons_of_mem _ he), List.any_cons]
    cases xs.any (·.1 == i) with
    | true => rw [Bool.or_true]; rfl
    | false =>
      by_cases hk : k = i
      · have hv : v = r := hall (k, v) List.mem_cons_self hk
        rw [if_pos hk, hv, Bool.or_false, if_pos (beq_iff_eq.mpr hk)]; rfl
      · rw [if_neg hk, Bool.or_false, if_neg (mt beq_iff_eq.mp hk)]; rfl

theorem ordered_eq_map (h : Inv l f w cap s) (ht : Terminal l s) (zero : β) :
    orderedResult zero l.length s.collected = l.map f := by
  apply List.ext_getElem
  · simp only [orderedResult, List.length_map, List.length_range]
  · intro i h1 h2
    simp only [orderedResult, List.length_map, List.length_range] at h1
    simp only [orderedResult, List.getElem_map, List.getElem_range]
    obtain ⟨e, he, hei⟩ := List.mem_map.mp (ht.keys.mem_iff.mpr (List.mem_range.mpr h1))
    have hall : ∀ e ∈ s.collected, e.1 = i → e.2 = f l[i] := fun e he hei => by
      have := h.wfCol e he
      rw [hei, List.getElem?_eq_getElem h1] at this
      exact (Option.some.inj this).symm
    rw [mapGet_eq s.collected hall, if_pos (List.any_eq_true.mpr ⟨e, he, (beq_iff_eq.mpr hei : (e.1 == i) = true)⟩)]; rfl

/-- RandomOrder mode: no index panic, no padding, and the output is a permutation of `map f l` -/
theorem noOrder_perm (h : Inv l f w cap s) (ht : Terminal l s) (zero : β) :
    noOrderResult zero l.length s.collected = some (s.collected.map (·.2)) ∧ (s.collected.map (·.2)).Perm (l.map f) := by
  constructor
  · simp [noOrderResult, ht.colLen]
  · have h1 : s.collected.map (fun e => some e.2) = (s.collected.map (·.1)).map (fun i => (l[i]?).map f) := by
      rw [List.map_map]
      exact List.map_congr_left fun e he => (h.wfCol e he).symm
    have hrange : (List.range l.length).map (fun i => (l[i]?).map f) = (l.map f).map some := by
      apply List.ext_getElem
      · simp only [List.length_map, List.length_range]
      · intro i h1 _
        simp only [List.length_map, List.length_range] at h1
        simp [List.getElem?_eq_getElem h1]
    have h2 := ((ht.keys.map (fun i => (l[i]?).map f)).filterMap id)
    rw [← h1, hrange] at h2
    simpa [List.filterMap_map] using h2

theorem sorted_mergeSort (l : List Nat) : (l.mergeSort leNat).Pairwise (· ≤ ·) :=
  (List.pairwise_mergeSort (le := leNat) (fun _ _ _ hab hbc => decide_eq_true (Nat.le_trans (of_decide_eq_true hab)
    (of_decide_eq_true hbc))) (fun a b => by simp only [leNat, Bool.or_eq_true, decide_eq_true_eq]; omega) l).imp of_decide_eq_true

theorem mergeSort_eq_of_perm {xs ys : List Nat} (h : xs.Perm ys) : xs.mergeSort leNat = ys.mergeSort leNat :=
  List.Perm.eq_of_pairwise (fun _ _ _ _ => Nat.le_antisymm) (sorted_mergeSort xs) (sorted_mergeSort ys)
    ((List.mergeSort_perm xs leNat).trans (h.trans (List.mergeSort_perm ys leNat).symm))

theorem mergeSort_map_mono (g : Nat → Nat) (hg : ∀ a b, a ≤ b → g a ≤ g b) (l : List Nat) :
    (l.map g).mergeSort leNat = (l.mergeSort leNat).map g :=
  List.Perm.eq_of_pairwise (fun _ _ _ _ => Nat.le_antisymm) (sorted_mergeSort _)
    (List.pairwise_map.mpr ((sorted_mergeSort l).imp (hg _ _)))
    ((List.mergeSort_perm _ leNat).trans ((List.mergeSort_perm l leNat).symm.map g))

end FpgoVerif.C16
