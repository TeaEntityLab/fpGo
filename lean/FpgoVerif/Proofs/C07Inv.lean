import FpgoVerif.Model.C07
/-! C07 — the safety invariant of the BufferedChannelQueue transition system. -/
namespace FpgoVerif.C07

def optl : Option Nat → List Nat
  | none => []
  | some v => [v]

@[simp] theorem optl_none : optl none = [] := rfl
@[simp] theorem optl_some (v : Nat) : optl (some v) = [v] := rfl

theorem trySend_cases (s : St) : s.chan.length < s.c ∨ (s.chan = [] ∧ 0 < s.waiters) ∨ trySendFails s := by
  unfold trySendFails
  by_cases hc : s.chan.length < s.c
  · exact .inl hc
  · by_cases h0 : s.chan = []
    · by_cases hw : 0 < s.waiters
      · exact .inr (.inl ⟨h0, hw⟩)
      · exact .inr (.inr ⟨by omega, .inl (by omega)⟩)
    · exact .inr (.inr ⟨by omega, .inr h0⟩)

structure Inv (c b : Nat) (s : St) : Prop where
  cap : s.c = c
  bmax : s.b = b
  fifo : s.delivered ++ s.chan ++ optl s.inflight ++ s.pool = s.accepted
  chanB : s.chan.length ≤ c
  poolB : s.pool.length + (optl s.inflight).length ≤ b
  infl : s.inflight ≠ none → s.lock = .loader
  sawEmpty : ∀ v, s.lock = .producer v true → s.pool = [] ∧ s.inflight = none
  lpcLock : s.lpc = .inpass ↔ s.lock = .loader
  sawNonEmpty : ∀ v, s.lock = .producer v false → s.pool ≠ []

theorem Inv.inflight_none {c b : Nat} {s : St} (i : Inv c b s) (h : s.lock ≠ .loader) : s.inflight = none :=
  Decidable.byContradiction fun hne => h (i.infl hne)

theorem Inv.of_unlocked {c b : Nat} {s : St} (cap : s.c = c) (bmax : s.b = b)
    (fifo : s.delivered ++ s.chan ++ optl s.inflight ++ s.pool = s.accepted) (chanB : s.chan.length ≤ c)
    (poolB : s.pool.length + (optl s.inflight).length ≤ b) (hl : s.lock = .free) (hin : s.inflight = none)
    (hp : s.lpc ≠ .inpass) : Inv c b s :=
  ⟨cap, bmax, fifo, chanB, poolB, fun hne => absurd hin hne, fun _ h => (nomatch hl.symm.trans h),
    ⟨fun h => absurd h hp, fun h => (nomatch hl.symm.trans h)⟩, fun _ h => (nomatch hl.symm.trans h)⟩

theorem Inv.frame {c b : Nat} {s : St} (i : Inv c b s) (t : Bool) (w : Nat) : Inv c b { s with token := t, waiters := w } :=
  { i with }

theorem init_inv (c b : Nat) : Inv c b (init c b) :=
  .of_unlocked rfl rfl rfl (Nat.zero_le _) (Nat.zero_le _) rfl rfl nofun

theorem step_inv {c b : Nat} {s s' : St} {a : Act} (h : step s a = some s') (hi : Inv c b s) : Inv c b s' := by
  have hin := hi.inflight_none
  have frame := hi.frame
  obtain ⟨cap, bmax, fifo, chanB, poolB, infl, sawEmpty, lpcLock, sawNonEmpty⟩ := hi
  have prod : ∀ {v e}, s.lock = .producer v e → s.lpc ≠ .inpass ∧ s.inflight = none := fun hl =>
    have hnl : s.lock ≠ .loader := by simp [hl]
    ⟨fun hp => hnl (lpcLock.mp hp), hin hnl⟩
  cases a
  all_goals dsimp only [step] at h
  case offerLock v =>
    (repeat' split at h) <;> cases h
    rename_i hl
    have hnl : s.lock ≠ .loader := by simp [hl]
    exact ⟨cap, bmax, fifo, chanB, poolB, fun hne => absurd (hin hnl) hne,
      fun w hw => ⟨by simpa using (Holder.producer.inj hw).2, hin hnl⟩,
      ⟨fun hp => absurd (lpcLock.mp hp) hnl, nofun⟩,
      fun w hw => by simpa using (Holder.producer.inj hw).2⟩
  case offerChan v =>
    (repeat' split at h) <;> cases h
    rename_i hc
    obtain ⟨hp, hin0⟩ := sawEmpty v hc.1
    exact .of_unlocked cap bmax (by simp [← fifo, hp, hin0]) (by simp; omega) poolB rfl hin0 (prod hc.1).1
  case offerHandoff v =>
    (repeat' split at h) <;> cases h
    rename_i hc
    obtain ⟨hp, hin0⟩ := sawEmpty v hc.1
    exact .of_unlocked cap bmax (by simp [← fifo, hp, hin0, hc.2.1]) chanB poolB rfl hin0 (prod hc.1).1
  case offerFull v =>
    (repeat' split at h) <;> cases h
    rename_i hc
    obtain ⟨hlpc, hin0⟩ := hc.1.elim prod (fun h => prod h.1)
    exact .of_unlocked cap bmax fifo chanB poolB rfl hin0 hlpc
  case offerPool v =>
    (repeat' split at h) <;> cases h
    rename_i hc
    obtain ⟨hlpc, hin0⟩ := hc.1.elim prod (fun h => prod h.1)
    exact .of_unlocked cap bmax (by simp [← fifo, hin0]) chanB (by simp [hin0]; omega) rfl hin0 hlpc
  case notify | recvWait | recvTimeout | pollEmpty =>
    (repeat' split at h) <;> cases h
    exact frame _ _
  case recvTake | tryRecv =>
    (repeat' split at h) <;> cases h
    have hch : s.chan = _ :: _ := ‹_›
    exact ⟨cap, bmax, by simp [← fifo, hch], by simp [hch] at chanB ⊢; omega, poolB, infl, sawEmpty, lpcLock, sawNonEmpty⟩
  case loaderWake =>
    (repeat' split at h) <;> cases h
    rename_i hc
    exact ⟨cap, bmax, fifo, chanB, poolB, infl, sawEmpty,
      ⟨nofun, fun hl => by have := lpcLock.mpr hl; rw [hc.2] at this; cases this⟩, sawNonEmpty⟩
  case loaderLock =>
    (repeat' split at h) <;> cases h
    rename_i hc
    exact ⟨cap, bmax, fifo, chanB, poolB, fun _ => rfl, nofun, ⟨fun _ => rfl, fun _ => rfl⟩, nofun⟩
  case loaderPoll =>
    (repeat' split at h) <;> cases h
    rename_i x rest hp hc
    exact ⟨cap, bmax, by simpa [hp, hc.2] using fifo, chanB, by simp [hp, hc.2] at poolB ⊢; omega, fun _ => hc.1,
      fun _ h => (nomatch hc.1.symm.trans h), lpcLock, fun _ h => (nomatch hc.1.symm.trans h)⟩
  case loaderSend =>
    (repeat' split at h) <;> cases h
    rename_i x hx hc
    exact ⟨cap, bmax, by simpa [hx] using fifo, by simp; omega, by simp [hx] at poolB ⊢; omega, fun hne => absurd rfl hne,
      fun _ h => (nomatch hc.1.symm.trans h), lpcLock, fun _ h => (nomatch hc.1.symm.trans h)⟩
  case loaderHandoff =>
    (repeat' split at h) <;> cases h
    rename_i x hx hc
    exact ⟨cap, bmax, by simpa [hx, hc.2.1] using fifo, chanB, by simp [hx] at poolB ⊢; omega, fun hne => absurd rfl hne,
      fun _ h => (nomatch hc.1.symm.trans h), lpcLock, fun _ h => (nomatch hc.1.symm.trans h)⟩
  case loaderUnshift =>
    (repeat' split at h) <;> cases h
    rename_i x hx hc
    exact .of_unlocked cap bmax (by simpa [hx] using fifo) chanB (by simp [hx] at poolB ⊢; omega) rfl rfl nofun
  case loaderDone =>
    (repeat' split at h) <;> cases h
    rename_i hc
    exact .of_unlocked cap bmax fifo chanB poolB rfl hc.2.1 nofun

theorem run_inv {c b : Nat} (acts : List Act) : ∀ {s s' : St}, run s acts = some s' → Inv c b s → Inv c b s' := by
  induction acts with
  | nil => intro s s' h hi; cases h; exact hi
  | cons a as ih =>
    intro s s' h hi
    simp only [run] at h
    split at h
    · next hs => exact ih h (step_inv hs hi)
    · cases h

theorem reach_inv {c b : Nat} {s : St} (h : Reach c b s) : Inv c b s :=
  let ⟨acts, h⟩ := h
  run_inv acts h (init_inv c b)

end FpgoVerif.C07
