import FpgoVerif.Model.C07Chq
/-! Invariant of the ChannelQueue-alone transition system. -/
namespace FpgoVerif.C07.Chq

structure Inv (c : Nat) (s : CS) : Prop where
  cap : s.c = c
  fifo : s.delivered ++ s.buf = s.accepted
  bound : s.buf.length ≤ c
  blockedFull : s.sendq ≠ [] → c ≤ s.buf.length
  waitEmpty : 0 < s.recvWaiting → s.buf = [] ∧ s.sendq = []

theorem init_inv (c : Nat) : Inv c (init c) :=
  ⟨rfl, rfl, Nat.zero_le _, fun h => absurd rfl h, fun h => absurd h (Nat.lt_irrefl 0)⟩

theorem step_inv {c : Nat} {s s' : CS} {a : Act} (h : step s a = some s') (hi : Inv c s) : Inv c s' := by
  obtain ⟨cap, fifo, bound, blockedFull, waitEmpty⟩ := hi
  have noWait : s.buf ≠ [] ∨ s.sendq ≠ [] → ¬ 0 < s.recvWaiting := fun hne hw =>
    hne.elim (fun h => h (waitEmpty hw).1) (fun h => h (waitEmpty hw).2)
  cases a
  all_goals dsimp only [step] at h
  case sendBuf v =>
    (repeat' split at h) <;> cases h
    rename_i hg
    have hq : s.sendq = [] := Decidable.byContradiction fun hne => by have := blockedFull hne; omega
    exact ⟨cap, by simp [← fifo], by simp; omega, fun hne => absurd hq hne, fun hw => by simp [hg.2] at hw⟩
  case sendHandoff v =>
    (repeat' split at h) <;> cases h
    rename_i hg
    obtain ⟨hb, hq⟩ := waitEmpty hg
    exact ⟨cap, by simpa [hb] using fifo, bound, blockedFull, fun _ => ⟨hb, hq⟩⟩
  case sendBlock v =>
    (repeat' split at h) <;> cases h
    rename_i hg
    exact ⟨cap, fifo, bound, fun _ => cap ▸ hg.1, fun hw => by simp [hg.2] at hw⟩
  case offerFull v | pollEmpty =>
    (repeat' split at h) <;> cases h
    exact ⟨cap, fifo, bound, blockedFull, waitEmpty⟩
  case putTimeout v =>
    (repeat' split at h) <;> cases h
    rename_i hg
    have hne : s.sendq ≠ [] := fun e => by simp [e] at hg
    exact ⟨cap, fifo, bound, fun _ => blockedFull hne, fun hw => absurd hw (noWait (.inr hne))⟩
  case recvBuf =>
    (repeat' split at h) <;> cases h
    next x rest hb hq => -- nobody parked
      exact ⟨cap, by simp [← fifo, hb], by simp [hb] at bound ⊢; omega, fun hne => absurd hq hne,
        fun hw => absurd hw (noWait (.inl (by simp [hb])))⟩
    next x rest w ws hb hq => -- the first parked sender completes into the freed slot
      have hfull := blockedFull (by simp [hq])
      exact ⟨cap, by simp [← fifo, hb], by simp [hb] at bound ⊢; omega, fun _ => by simp [hb] at hfull ⊢; omega,
        fun hw => absurd hw (noWait (.inl (by simp [hb])))⟩
  case recvFromSender =>
    (repeat' split at h) <;> cases h
    rename_i w ws hb hq
    have hne : s.sendq ≠ [] := by simp [hq]
    exact ⟨cap, by simpa [hb] using congrArg (· ++ [w]) fifo, bound, fun _ => blockedFull hne,
      fun hw => absurd hw (noWait (.inr hne))⟩
  case recvWait =>
    (repeat' split at h) <;> cases h
    rename_i hg
    exact ⟨cap, fifo, bound, blockedFull, fun _ => hg⟩
  case takeTimeout =>
    (repeat' split at h) <;> cases h
    rename_i hg
    exact ⟨cap, fifo, bound, blockedFull, fun _ => waitEmpty hg⟩

theorem run_inv {c : Nat} (acts : List Act) : ∀ {s s' : CS}, run s acts = some s' → Inv c s → Inv c s' := by
  induction acts with
  | nil => intro s s' h hi; cases h; exact hi
  | cons a as ih =>
    intro s s' h hi
    simp only [run] at h
    split at h
    · next hs => exact ih h (step_inv hs hi)
    · cases h

theorem reach_inv {c : Nat} {s : CS} (h : Reach c s) : Inv c s :=
  let ⟨acts, h⟩ := h
  run_inv acts h (init_inv c)

end FpgoVerif.C07.Chq
